import GnpyModel.Verdict
import GnpyProofs.Lemmas.ListIdioms
/- The exploration order of the mode loop of C13 (model: GnpyModel/Verdict.lean, discrete part): which modes it holds and
   how it is sorted. -/
namespace Gnpy.Verdict

theorem pairGt_iff (a b : Int × Int) : pairGt a b = true ↔ a.1 > b.1 ∨ (a.1 = b.1 ∧ a.2 > b.2) := by
  simp [pairGt]

theorem mem_insertDesc (p q : Int × Int) (l : List (Int × Int)) : q ∈ insertDesc p l ↔ q = p ∨ q ∈ l := by
  induction l with
  | nil => simp [insertDesc]
  | cons x xs ih =>
    rw [insertDesc]
    split_ifs with h1 h2
    · exact List.mem_cons
    · rw [h2, List.mem_cons, or_self_left]
    · rw [List.mem_cons, ih, List.mem_cons, or_left_comm]

def DescSorted (l : List (Int × Int)) : Prop := l.Pairwise (fun a b => pairGt a b = true)

theorem pairGt_trans {a b c : Int × Int} (h1 : pairGt a b = true) (h2 : pairGt b c = true) : pairGt a c = true := by
  rw [pairGt_iff] at *
  omega

theorem pairGt_total (a b : Int × Int) : pairGt a b = true ∨ a = b ∨ pairGt b a = true := by
  rw [pairGt_iff, pairGt_iff, Prod.ext_iff]
  omega

theorem insertDesc_sorted (p : Int × Int) (l : List (Int × Int)) (h : DescSorted l) : DescSorted (insertDesc p l) := by
  induction l with
  | nil => simp [insertDesc, DescSorted]
  | cons x xs ih =>
    have hx := List.pairwise_cons.1 h
    rw [insertDesc]
    split_ifs with hgt hne
    · exact List.pairwise_cons.2 ⟨List.forall_mem_cons.2 ⟨hgt, fun b hb => pairGt_trans hgt (hx.1 b hb)⟩, h⟩
    · exact h
    · refine List.pairwise_cons.2 ⟨fun b hb => ?_, ih hx.2⟩
      rcases (mem_insertDesc p b xs).1 hb with rfl | hb
      · exact ((pairGt_total b x).resolve_left hgt).resolve_left hne
      · exact hx.1 b hb

theorem mem_foldl_insertDesc (f : Mode → Int × Int) (ms : List Mode) (acc : List (Int × Int)) (q : Int × Int) :
    q ∈ ms.foldl (fun acc m => insertDesc (f m) acc) acc ↔ q ∈ acc ∨ ∃ m ∈ ms, f m = q := by
  induction ms generalizing acc with
  | nil => simp
  | cons m rest ih =>
    simp only [List.foldl_cons, ih, mem_insertDesc, List.mem_cons, exists_eq_or_imp, eq_comm (a := q), or_assoc,
      or_left_comm]

theorem mem_pairsDesc (modes : List Mode) (spacing : Int) (q : Int × Int) :
    q ∈ pairsDesc modes spacing ↔ ∃ m ∈ modes, fits spacing m = true ∧ (m.baud, m.offset) = q := by
  simp only [pairsDesc, mem_foldl_insertDesc, List.not_mem_nil, false_or, List.mem_filter, and_assoc]

theorem mem_baudsDesc (modes : List Mode) (spacing : Int) (b : Int) :
    b ∈ baudsDesc modes spacing ↔ ∃ m ∈ modes, fits spacing m = true ∧ m.baud = b := by
  simp only [baudsDesc, List.mem_map, mem_foldl_insertDesc, List.not_mem_nil, false_or, List.mem_filter, and_assoc]
  constructor
  · rintro ⟨_, ⟨m, h1, h2, rfl⟩, rfl⟩; exact ⟨m, h1, h2, rfl⟩
  · rintro ⟨m, h1, h2, rfl⟩; exact ⟨_, ⟨m, h1, h2, rfl⟩, rfl⟩

theorem baudsDesc_sorted (modes : List Mode) (spacing : Int) :
    (baudsDesc modes spacing).Pairwise (fun a b => a > b) := by
  rw [baudsDesc, List.pairwise_map]
  refine (List.foldlRecOn (motive := DescSorted) _ _ List.Pairwise.nil fun acc h _ _ =>
    insertDesc_sorted _ acc h).imp_of_mem fun {a b} ha hb hab => ?_
  -- every pair of the list has second component 0, so the lexicographic order is that of the first components
  simp only [mem_foldl_insertDesc, List.not_mem_nil, false_or] at ha hb
  obtain ⟨_, _, rfl⟩ := ha
  obtain ⟨_, _, rfl⟩ := hb
  simpa [pairGt_iff] using hab

theorem mem_modesOf (modes : List Mode) (spacing baud : Int) (m : Mode) :
    m ∈ modesOf modes spacing baud ↔ m ∈ modes ∧ m.baud = baud ∧ fits spacing m = true := by
  unfold modesOf
  rw [sortKeyDesc_eq, List.mem_insertionSort, List.mem_filter]
  simp

/-- the modes of one baud rate stand by descending key: no mode's key is greater than that of a mode before it -/
theorem modesOf_sorted (modes : List Mode) (spacing baud : Int) :
    (modesOf modes spacing baud).Pairwise fun a b => ¬ pairGt (key b) (key a) = true := by
  rw [modesOf, sortKeyDesc_eq]
  -- the sort compares with the NEGATION of the strict order, so `pairGt_total`/`pairGt_trans` do not apply: that relation
  -- is total and transitive by arithmetic on the components
  exact pairwise_insertionSort_of (tot := fun a b => by simp only [pairGt_iff]; omega)
    (tr := fun a b c => by simp only [pairGt_iff]; omega) _

theorem mem_modeOrder (modes : List Mode) (spacing : Int) (m : Mode) :
    m ∈ modeOrder modes spacing ↔ m ∈ modes ∧ fits spacing m = true := by
  unfold modeOrder
  simp only [List.mem_flatMap, mem_baudsDesc, mem_modesOf]
  constructor
  · rintro ⟨b, _, h1, _, h3⟩; exact ⟨h1, h3⟩
  · rintro ⟨h1, h2⟩; exact ⟨m.baud, ⟨m, h1, h2, rfl⟩, h1, rfl, h2⟩

/-- `a` is explored no later than `b` only if (baud, bit rate) of `a` is lexicographically ≥ that of `b` -/
def RateGe (a b : Mode) : Prop := a.baud > b.baud ∨ (a.baud = b.baud ∧ a.bitRate ≥ b.bitRate)

theorem modeOrder_sorted (modes : List Mode) (spacing : Int) : (modeOrder modes spacing).Pairwise RateGe := by
  rw [modeOrder, List.pairwise_flatMap]
  refine ⟨fun b _ => (modesOf_sorted modes spacing b).imp_of_mem fun {x y} hx hy hxy => ?_,
    (baudsDesc_sorted modes spacing).imp fun hab x hx y hy => ?_⟩
  · -- within one baud rate: the same baud rate, and the order of the keys gives that of the bit rates
    rw [mem_modesOf] at hx hy
    simp only [pairGt_iff, key] at hxy
    unfold RateGe
    omega
  · -- across baud rates: the baud rates descend
    rw [mem_modesOf] at hx hy
    unfold RateGe
    omega

end Gnpy.Verdict
