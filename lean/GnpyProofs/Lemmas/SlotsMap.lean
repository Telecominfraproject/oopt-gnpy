import GnpyProofs.Lemmas.Slots
import GnpyProofs.Lemmas.MapM
import GnpyProofs.Lemmas.ListIdioms
/- Lemmas for C15: a `mapE` that succeeded relates inputs and results by `Forall₂`, the band cells of an OMS map,
   insert_left/right and align_grids, and `find_common_range` as the intersection of the amplifiers' band sets.
   Model: GnpyModel/Slots.lean (second half), `mapE` in GnpyModel/Py.lean. -/
namespace Gnpy

/-- `min(f(x) for x in l)` over integer keys as `align_grids` and `find_network_freq_range` compute it: a lower bound of
    all keys that one of them attains -/
theorem foldl_min_key {α : Type} (f : α → Int) (b0 : α) (bs : List α) :
    (∀ x ∈ b0 :: bs, bs.foldl (fun a x => if f x < a then f x else a) (f b0) ≤ f x) ∧
    ∃ x ∈ b0 :: bs, f x = bs.foldl (fun a x => if f x < a then f x else a) (f b0) :=
  (foldl_firstBest_cons f (· < ·) (fun _ _ => Int.lt_asymm)
    (fun _ _ _ h1 h2 => Int.not_lt.2 (Int.le_trans (Int.not_lt.1 h2) (Int.not_lt.1 h1))) b0 bs).imp_left
    fun h x hx => Int.not_lt.1 (h x hx)

/-- `max(f(x) for x in l)` over integer keys as `align_grids` and `find_network_freq_range` compute it: an upper bound of
    all keys that one of them attains -/
theorem foldl_max_key {α : Type} (f : α → Int) (b0 : α) (bs : List α) :
    (∀ x ∈ b0 :: bs, f x ≤ bs.foldl (fun a x => if f x > a then f x else a) (f b0)) ∧
    ∃ x ∈ b0 :: bs, f x = bs.foldl (fun a x => if f x > a then f x else a) (f b0) :=
  (foldl_firstBest_cons f (· > ·) (fun _ _ => Int.lt_asymm)
    (fun _ _ _ h1 h2 => Int.not_lt.2 (Int.le_trans (Int.not_lt.1 h1) (Int.not_lt.1 h2))) b0 bs).imp_left
    fun h x hx => Int.not_lt.1 (h x hx)

end Gnpy

namespace Gnpy.Py

theorem mapE_eq_ok {α β ε : Type} {f : α → Except ε β} {l : List α} {r : List β} :
    mapE f l = .ok r ↔ List.Forall₂ (fun a b => f a = .ok b) l r := by
  rw [mapE_eq_mapM]
  exact Except.mapM_eq_ok

theorem mapE_total {α β ε : Type} {P : α → β → Prop} {f : α → Except ε β} {l : List α}
    (h : ∀ x ∈ l, ∃ b, f x = .ok b ∧ P x b) : ∃ r, mapE f l = .ok r ∧ List.Forall₂ P l r := by
  induction l with
  | nil => exact ⟨[], rfl, .nil⟩
  | cons a as ih =>
    obtain ⟨⟨b, hb, hp⟩, has⟩ := List.forall_mem_cons.1 h
    obtain ⟨r, hr, hf⟩ := ih has
    refine ⟨b :: r, ?_, .cons hp hf⟩
    rw [mapE, hb, hr]
    rfl

end Gnpy.Py

namespace Gnpy.Slots
open Gnpy.Py

/-! ### `create_oms_bitmap`: the band cells of an OMS map; the network range -/

/-- the band layout fits: every band holds at least one slot index, the bands ascend in slot index, each starting above
    the index `prev` at which the preceding one ends (touching bands are allowed), and the last ends not above `nMax` -/
def LayoutOK (grid : Int) : Int → List Band → Int → Prop
  | prev, [], nMax => prev ≤ nMax
  | prev, b :: bs, nMax =>
    prev < bandLo b.1 grid ∧ bandLo b.1 grid ≤ bandHi b.2 grid ∧ LayoutOK grid (bandHi b.2 grid) bs nMax

/-- slot index `x` lies in one of the bands (index view) -/
def InBands (grid : Int) (bands : List Band) (x : Int) : Prop :=
  ∃ b ∈ bands, bandLo b.1 grid ≤ x ∧ x ≤ bandHi b.2 grid

theorem layout_le {grid : Int} : ∀ {bands : List Band} {prev nMax : Int}, LayoutOK grid prev bands nMax → prev ≤ nMax := by
  intro bands
  induction bands with
  | nil => exact fun h => h
  | cons b bs ih =>
    intro prev nMax h
    obtain ⟨h1, h2, h3⟩ := h
    have := ih h3
    omega

theorem inBands_cons {grid : Int} {b : Band} {bs : List Band} {x : Int} :
    InBands grid (b :: bs) x ↔ (bandLo b.1 grid ≤ x ∧ x ≤ bandHi b.2 grid) ∨ InBands grid bs x := by
  simp only [InBands, List.mem_cons, exists_eq_or_imp]

/-- the cells `l` are those of the slot indices `s … e − 1` and record the predicate `P`: free where it holds, unusable
    elsewhere -/
structure Marks (P : Int → Prop) (s e : Int) (l : List Cell) : Prop where
  len : s + l.length = e
  cell : ∀ k : Nat, k < l.length → (l[k]? = some Cell.free ∧ P (s + k)) ∨ (l[k]? = some Cell.unusable ∧ ¬ P (s + k))

theorem Marks.append {P : Int → Prop} {s m e : Int} {l1 l2 : List Cell} (h1 : Marks P s m l1) (h2 : Marks P m e l2) :
    Marks P s e (l1 ++ l2) := by
  refine ⟨by rw [List.length_append, Int.natCast_add, ← Int.add_assoc, h1.len, h2.len], fun k hk => ?_⟩
  rcases Nat.lt_or_ge k l1.length with hk1 | hk1
  · rw [List.getElem?_append_left hk1]
    exact h1.cell k hk1
  · obtain ⟨i, rfl⟩ := Nat.exists_eq_add_of_le hk1
    rw [List.getElem?_append_right hk1, Nat.add_sub_cancel_left, Int.natCast_add, ← Int.add_assoc, h1.len]
    exact h2.cell i (Nat.lt_of_add_lt_add_left (List.length_append ▸ hk))

theorem Marks.rep {P : Int → Prop} {s e n : Int} {c : Cell} (hn : 0 ≤ n) (he : s + n = e)
    (h : ∀ x, s ≤ x → x < e → (c = Cell.free ∧ P x) ∨ (c = Cell.unusable ∧ ¬ P x)) : Marks P s e (rep n c) := by
  obtain ⟨n, rfl⟩ := Int.eq_ofNat_of_zero_le hn
  refine ⟨by rw [length_rep, Int.toNat_natCast, he], fun k hk => ?_⟩
  rw [length_rep, Int.toNat_natCast] at hk
  rw [getElem?_rep, Int.toNat_natCast, if_pos hk, Option.some.injEq, Option.some.injEq]
  exact h (s + k) (Int.le_add_of_nonneg_right (Int.natCast_nonneg k)) (he ▸ Int.add_lt_add_left (Int.ofNat_lt.2 hk) s)

theorem Marks.congr {P Q : Int → Prop} {s e : Int} {l : List Cell} (h : Marks P s e l)
    (hPQ : ∀ x, s ≤ x → x < e → (P x ↔ Q x)) : Marks Q s e l :=
  ⟨h.len, fun k hk => by
    rw [← hPQ (s + k) (Int.le_add_of_nonneg_right (Int.natCast_nonneg k)) (h.len ▸ Int.add_lt_add_left (Int.ofNat_lt.2 hk) s)]
    exact h.cell k hk⟩

/-- the loop of `create_oms_bitmap` over the bands: the cells of the indices after `prev` up to the end of the last band,
    free exactly inside the bands -/
theorem bandCells_marks {grid : Int} : ∀ {bands : List Band} {prev nMax : Int}, LayoutOK grid prev bands nMax →
    (bandCells grid prev bands).2 ≤ nMax ∧
    (∀ x, InBands grid bands x → prev < x ∧ x ≤ (bandCells grid prev bands).2) ∧
    Marks (InBands grid bands) (prev + 1) ((bandCells grid prev bands).2 + 1) (bandCells grid prev bands).1 := by
  intro bands
  induction bands with
  | nil => exact fun h => ⟨h, fun x ⟨_, hc, _⟩ => (nomatch hc), Int.add_zero _, fun k hk => nomatch hk⟩
  | cons b bs ih =>
    intro prev nMax ⟨h1, h2, h3⟩
    obtain ⟨i1, i2, i3⟩ := ih h3
    have hge : bandHi b.2 grid ≤ (bandCells grid (bandHi b.2 grid) bs).2 := by
      have := i3.len
      omega
    have later : ∀ x, InBands grid bs x → bandLo b.1 grid < x := fun x h =>
      Int.lt_of_le_of_lt h2 (i2 x h).1
    refine ⟨i1, fun x hx => ?_, ?_⟩
    · rcases inBands_cons.1 hx with h | h
      · exact ⟨Int.lt_of_lt_of_le h1 h.1, Int.le_trans h.2 hge⟩
      · exact ⟨Int.lt_trans h1 (later x h), (i2 x h).2⟩
    -- the gap below the band, the band, and what follows it
    refine (Marks.append (m := bandLo b.1 grid) ?gap ?band).append (m := bandHi b.2 grid + 1) ?rest
    case gap =>
      refine Marks.rep (by omega) (by omega) fun x _ hx2 => Or.inr ⟨rfl, fun hx => ?_⟩
      rcases inBands_cons.1 hx with h | h
      · exact Int.not_le.2 hx2 h.1
      · exact Int.lt_asymm hx2 (later x h)
    case band =>
      exact Marks.rep (by omega) (by omega) fun x hx1 hx2 =>
        Or.inl ⟨rfl, inBands_cons.2 (Or.inl ⟨hx1, Int.lt_add_one_iff.1 hx2⟩)⟩
    case rest =>
      exact i3.congr fun x hx _ => (inBands_cons.trans (or_iff_right fun h => by omega)).symm

theorem bandCells_spec (grid : Int) : ∀ (bands : List Band) (prev nMax : Int), LayoutOK grid prev bands nMax →
    prev ≤ (bandCells grid prev bands).2 ∧ (bandCells grid prev bands).2 ≤ nMax ∧
    (bandCells grid prev bands).1.length = ((bandCells grid prev bands).2 - prev).toNat ∧
    (∀ x, InBands grid bands x → x ≤ (bandCells grid prev bands).2) ∧
    ∀ k : Nat, k < (bandCells grid prev bands).1.length →
      ((bandCells grid prev bands).1[k]? = some Cell.free ∧ InBands grid bands (prev + 1 + k)) ∨
      ((bandCells grid prev bands).1[k]? = some Cell.unusable ∧ ¬ InBands grid bands (prev + 1 + k)) := by
  intro bands prev nMax h
  obtain ⟨h1, h2, h3, h4⟩ := bandCells_marks h
  exact ⟨by omega, h1, by omega, fun x hx => (h2 x hx).2, h4⟩

/-- `create_oms_bitmap` for a fitting band layout: one cell per index of `[n(f_min), n(f_max)]`, free exactly on the
    indices of the bands, unusable elsewhere (never occupied) -/
theorem createOmsBitmap_spec (bands : List Band) (fMin fMax grid : Int) (cells : List Cell)
    (hl : LayoutOK grid (frequencyToN fMin grid - 1) bands (frequencyToN fMax grid))
    (h : createOmsBitmap bands fMin fMax grid = .ok cells) :
    cells.length = (frequencyToN fMax grid - frequencyToN fMin grid + 1).toNat ∧
    ∀ k : Nat, k < cells.length →
      (cells[k]? = some Cell.free ∧ InBands grid bands (frequencyToN fMin grid + k)) ∨
      (cells[k]? = some Cell.unusable ∧ ¬ InBands grid bands (frequencyToN fMin grid + k)) := by
  unfold createOmsBitmap at h
  split at h
  · cases h
  split at h
  · cases h
  · next b bs =>
    cases Except.pure_eq_ok_iff.1 h
    obtain ⟨i1, i2, i3⟩ := bandCells_marks hl
    suffices M : Marks (InBands grid (b :: bs)) (frequencyToN fMin grid - 1 + 1) (frequencyToN fMax grid + 1) _ by
      rw [Int.sub_add_cancel] at M
      refine ⟨?_, M.cell⟩
      have := M.len
      omega
    -- the band cells, then unusable cells up to `n(f_max)`: above every band
    refine i3.append (Marks.rep (by omega) (by omega) fun x hx1 _ => Or.inr ⟨rfl, fun hx => ?_⟩)
    have := (i2 x hx).2
    omega

theorem networkRange_le {bands : List Band} {fMin fMax : Int} (h : networkRange bands = .ok (fMin, fMax))
    (hne : ∀ b ∈ bands, b.1 ≤ b.2) : fMin ≤ fMax := by
  cases bands with
  | nil => cases h
  | cons b0 bs =>
    cases Except.pure_eq_ok_iff.1 h
    exact Int.le_trans ((foldl_min_key Prod.fst b0 bs).1 b0 List.mem_cons_self)
      (Int.le_trans (hne b0 List.mem_cons_self) ((foldl_max_key Prod.snd b0 bs).1 b0 List.mem_cons_self))

/-! ### `insert_left`, `insert_right` and `align_grids` -/

/-- well formed and not degenerate (`n_min ≤ n_max + 1`, true for every map built with `f_min ≤ f_max`) -/
def Bitmap.WF1 (b : Bitmap) : Prop := b.WF ∧ b.nMin ≤ b.nMax + 1

theorem Bitmap.wf1_iff (b : Bitmap) :
    b.WF1 ↔ b.freqIndex = intRange b.nMin (b.nMax + 1) ∧ (b.cells.length : Int) = b.nMax + 1 - b.nMin := by
  unfold Bitmap.WF1 Bitmap.WF
  constructor
  · rintro ⟨h, h3⟩
    exact ⟨h.1, by rw [b.length_cells h, Int.toNat_of_nonneg (Int.sub_nonneg_of_le h3)]⟩
  · rintro ⟨h1, h2⟩
    rw [h1, length_intRange, ← h2, Int.toNat_natCast]
    exact ⟨⟨rfl, rfl⟩, Int.le_of_sub_nonneg (h2 ▸ Int.natCast_nonneg _)⟩

/-- `n` cells `c` put in front of the cells of `b` -/
theorem Bitmap.cellAt_prepend (b : Bitmap) {b' : Bitmap} (n : Nat) (c : Cell) (hn : b'.nMin = b.nMin - n)
    (hc : b'.cells = rep n c ++ b.cells) (x : Int) :
    b'.cellAt x = if b.nMin - n ≤ x ∧ x < b.nMin then some c else b.cellAt x := by
  rcases b'.index_cases x with h1 | ⟨j, rfl⟩
  · rw [b'.cellAt_of_lt h1, if_neg (by omega), b.cellAt_of_lt (by omega)]
  · rw [b'.cellAt_add, hc, List.getElem?_append, length_rep, getElem?_rep, Int.toNat_natCast, hn]
    by_cases hj : j < n
    · rw [if_pos hj, if_pos hj, if_pos (by omega)]
    · obtain ⟨i, rfl⟩ := Nat.exists_eq_add_of_le (Nat.le_of_not_lt hj)
      rw [if_neg hj, if_neg (by omega), Nat.add_sub_cancel_left, Int.natCast_add, ← Int.add_assoc, Int.sub_add_cancel,
        b.cellAt_add]

/-- `n` cells `c` put behind the cells of `b` -/
theorem Bitmap.cellAt_append (b : Bitmap) {b' : Bitmap} (n : Nat) (c : Cell) (hn : b'.nMin = b.nMin)
    (hc : b'.cells = b.cells ++ rep n c) (hl : (b.cells.length : Int) = b.nMax + 1 - b.nMin) (x : Int) :
    b'.cellAt x = if b.nMax < x ∧ x ≤ b.nMax + n then some c else b.cellAt x := by
  rcases b.index_cases x with h1 | ⟨j, rfl⟩
  · rw [b.cellAt_of_lt h1, if_neg (by omega), b'.cellAt_of_lt (hn ▸ h1)]
  · rw [← hn, b'.cellAt_add, hn, b.cellAt_add, hc, List.getElem?_append, getElem?_rep, Int.toNat_natCast]
    by_cases hj : j < b.cells.length
    · rw [if_pos hj, if_neg (by omega)]
    · rw [if_neg hj, List.getElem?_eq_none (Nat.le_of_not_lt hj)]
      by_cases hjn : j - b.cells.length < n
      · rw [if_pos hjn, if_pos (by omega)]
      · rw [if_neg hjn, if_neg (by omega)]

/-- what `Bitmap.insert_left` returns for `n > 0` new cells on a well-formed map: they stand in front, the index list
    reaches `n` further down, and it is not empty, so there is no IndexError -/
theorem insertLeft_eq (b : Bitmap) (hwf : b.WF1) (n : Nat) (hn : 0 < n) (c : Cell) :
    b.insertLeft (rep n c) = .ok { b with cells := rep n c ++ b.cells, freqIndex := intRange (b.nMin - n) (b.nMax + 1),
                                           nMin := b.nMin - n } := by
  have hne := hwf.2
  -- the new index list is not empty, and its head is the new `n_min`
  rw [Bitmap.insertLeft, length_rep, Int.toNat_natCast, hwf.1.1,
    intRange_append (Int.sub_le_self _ (Int.natCast_nonneg n)) hwf.2, intRange_eq_cons (by omega)]
  rfl

theorem insertLeft_spec (b b' : Bitmap) (hwf : b.WF1) (k : Int) (hk : 0 < k) (c : Cell)
    (h : b.insertLeft (rep k c) = .ok b') :
    b'.WF1 ∧ b'.nMin = b.nMin - k ∧ b'.nMax = b.nMax ∧
    ∀ x, b'.cellAt x = if b.nMin - k ≤ x ∧ x < b.nMin then some c else b.cellAt x := by
  obtain ⟨n, rfl⟩ := Int.eq_ofNat_of_zero_le (Int.le_of_lt hk)
  rw [insertLeft_eq b hwf n (Int.natCast_pos.1 hk) c] at h
  cases h
  refine ⟨(Bitmap.wf1_iff _).2 ⟨rfl, ?_⟩, rfl, rfl, Bitmap.cellAt_prepend b n c rfl rfl⟩
  dsimp only
  rw [List.length_append, length_rep, Int.toNat_natCast, Int.natCast_add, (b.wf1_iff.1 hwf).2]
  omega

/-- what `Bitmap.insert_right` returns for `n > 0` new cells on a well-formed map: they stand behind, the index list
    reaches `n` further up, and it is not empty, so there is no IndexError -/
theorem insertRight_eq (b : Bitmap) (hwf : b.WF1) (n : Nat) (hn : 0 < n) (c : Cell) :
    b.insertRight (rep n c) = .ok { b with cells := b.cells ++ rep n c, freqIndex := intRange b.nMin (b.nMax + n + 1),
                                            nMax := b.nMax + n } := by
  have hne := hwf.2
  have hl := getLast?_intRange b.nMin (b.nMax + n + 1) (by omega)
  rw [Bitmap.insertRight, length_rep, Int.toNat_natCast, hwf.1.1, Int.add_right_comm,
    intRange_append hwf.2 (by omega)]
  simp only [hl, Except.pure_eq_ok_iff, Int.add_sub_cancel]

theorem insertRight_spec (b b' : Bitmap) (hwf : b.WF1) (k : Int) (hk : 0 < k) (c : Cell)
    (h : b.insertRight (rep k c) = .ok b') :
    b'.WF1 ∧ b'.nMin = b.nMin ∧ b'.nMax = b.nMax + k ∧
    ∀ x, b'.cellAt x = if b.nMax < x ∧ x ≤ b.nMax + k then some c else b.cellAt x := by
  obtain ⟨n, rfl⟩ := Int.eq_ofNat_of_zero_le (Int.le_of_lt hk)
  rw [insertRight_eq b hwf n (Int.natCast_pos.1 hk) c] at h
  cases h
  have hl := (b.wf1_iff.1 hwf).2
  refine ⟨(Bitmap.wf1_iff _).2 ⟨rfl, ?_⟩, rfl, rfl, Bitmap.cellAt_append b n c rfl rfl hl⟩
  dsimp only
  rw [List.length_append, length_rep, Int.toNat_natCast, Int.natCast_add, hl]
  omega

theorem alignLeft_spec {lo : Int} {b b1 : Bitmap} (hwf : b.WF1) (hlo : lo ≤ b.nMin) (h : alignLeft lo b = .ok b1) :
    b1.WF1 ∧ b1.nMin = lo ∧ b1.nMax = b.nMax ∧
      ∀ x, b1.cellAt x = if lo ≤ x ∧ x < b.nMin then some Cell.occupied else b.cellAt x := by
  unfold alignLeft at h
  split at h
  · next hpos =>
    -- the width `b.nMin - lo` of the inserted cells cancels
    have := insertLeft_spec b b1 hwf _ hpos _ h
    rwa [Int.sub_sub_self] at this
  · cases h
    have e : b.nMin = lo := by omega
    exact ⟨hwf, e, rfl, fun x => (if_neg fun h => Int.not_lt.2 (e ▸ h.1) h.2).symm⟩

theorem alignRight_spec {hi : Int} {b b' : Bitmap} (hwf : b.WF1) (hhi : b.nMax ≤ hi) (h : alignRight hi b = .ok b') :
    b'.WF1 ∧ b'.nMin = b.nMin ∧ b'.nMax = hi ∧
      ∀ x, b'.cellAt x = if b.nMax < x ∧ x ≤ hi then some Cell.occupied else b.cellAt x := by
  unfold alignRight at h
  split at h
  · next hpos =>
    -- the width `hi - b.nMax` of the inserted cells cancels
    have := insertRight_spec b b' hwf _ hpos _ h
    rwa [Int.add_comm b.nMax, Int.sub_add_cancel] at this
  · cases h
    have e : b.nMax = hi := by omega
    exact ⟨hwf, rfl, e, fun x => (if_neg fun h => Int.not_lt.2 (e ▸ h.2) h.1).symm⟩

/-- one map through the loop body of `align_grids` -/
theorem alignOne_spec (lo hi : Int) (b b' : Bitmap) (hwf : b.WF1) (hlo : lo ≤ b.nMin) (hhi : b.nMax ≤ hi)
    (h : alignOne lo hi b = .ok b') :
    b'.WF1 ∧ b'.nMin = lo ∧ b'.nMax = hi ∧
    ∀ x, b'.cellAt x = if b.nMin ≤ x ∧ x ≤ b.nMax then b.cellAt x
                       else if lo ≤ x ∧ x ≤ hi then some Cell.occupied else none := by
  simp only [alignOne, Except.bind_eq_ok] at h
  obtain ⟨b1, e1, h⟩ := h
  obtain ⟨w1, n1, n2, c1⟩ := alignLeft_spec hwf hlo e1
  obtain ⟨w2, m1, m2, c2⟩ := alignRight_spec w1 (n2 ▸ hhi) h
  refine ⟨w2, m1.trans n1, m2, fun x => ?_⟩
  rw [c2 x, c1 x, n2]
  -- below, above and inside the old map
  rcases Int.lt_or_le x b.nMin with h1 | h1
  · have h2 : x ≤ b.nMax := by
      have := hwf.2
      omega
    rw [if_neg fun h : b.nMax < x ∧ x ≤ hi => Int.not_lt.2 h2 h.1,
      if_neg fun h : b.nMin ≤ x ∧ x ≤ b.nMax => Int.not_lt.2 h.1 h1, b.cellAt_of_lt h1]
    exact if_congr (and_congr_right fun _ => iff_of_true h1 (Int.le_trans h2 hhi)) rfl rfl
  · rw [if_neg fun h : lo ≤ x ∧ x < b.nMin => Int.not_lt.2 h1 h.2]
    rcases Int.lt_or_le b.nMax x with h2 | h2
    · rw [if_neg fun h : b.nMin ≤ x ∧ x ≤ b.nMax => Int.not_lt.2 h.2 h2, b.cellAt_of_gt hwf.1 h2]
      exact if_congr (and_congr_left fun _ => iff_of_true h2 (Int.le_trans hlo h1)) rfl rfl
    · rw [if_neg fun h : b.nMax < x ∧ x ≤ hi => Int.not_lt.2 h2 h.1, if_pos ⟨h1, h2⟩]

/-- `align_grids`: every map ends on the common range `[lo, hi]` (lowest `n_min`, highest `n_max`), with the contiguous
    index list of that range (each index once), every old cell at its old index and the added cells occupied -/
theorem alignGrids_ok {l l' : List Bitmap} (hwf : ∀ b ∈ l, b.WF1) (h : alignGrids l = .ok l') :
    ∃ lo hi, (∀ b ∈ l, lo ≤ b.nMin ∧ b.nMax ≤ hi) ∧ (∃ b ∈ l, b.nMin = lo) ∧ (∃ b ∈ l, b.nMax = hi) ∧
      List.Forall₂ (fun b b' => b'.WF1 ∧ b'.nMin = lo ∧ b'.nMax = hi ∧
        ∀ x, b'.cellAt x = if b.nMin ≤ x ∧ x ≤ b.nMax then b.cellAt x
                           else if lo ≤ x ∧ x ≤ hi then some Cell.occupied else none) l l' := by
  unfold alignGrids at h
  cases l with
  | nil => cases h
  | cons b0 bs =>
    obtain ⟨m1, m2⟩ := foldl_min_key Bitmap.nMin b0 bs
    obtain ⟨x1, x2⟩ := foldl_max_key Bitmap.nMax b0 bs
    refine ⟨_, _, fun b hb => ⟨m1 b hb, x1 b hb⟩, m2, x2, ?_⟩
    -- `mapE` succeeded, so every input `b` is related to its output by `alignOne lo hi b = .ok b'`; add what holds for
    -- every input (well formed, inside `[lo, hi]`) and apply `alignOne_spec` pair by pair
    have F : List.Forall₂ (fun b b' => alignOne _ _ b = .ok b') (b0 :: bs) l' := mapE_eq_ok.1 h
    have G : ∀ b ∈ b0 :: bs, b.WF1 ∧ _ ≤ b.nMin ∧ b.nMax ≤ _ := fun b hm => ⟨hwf b hm, m1 b hm, x1 b hm⟩
    exact ((List.forall₂_and_left _ _).2 ⟨G, F⟩).imp fun b b' ⟨⟨w, h1, h2⟩, e⟩ => alignOne_spec _ _ b b' w h1 h2 e

/-- `alignGrids_ok` position by position -/
theorem alignGrids_spec (l l' : List Bitmap) (hwf : ∀ b ∈ l, b.WF1) (h : alignGrids l = .ok l') :
    ∃ lo hi, (∀ b ∈ l, lo ≤ b.nMin ∧ b.nMax ≤ hi) ∧ (∃ b ∈ l, b.nMin = lo) ∧ (∃ b ∈ l, b.nMax = hi) ∧
      l'.length = l.length ∧
      ∀ (i : Nat) (b : Bitmap), l[i]? = some b → ∃ b', l'[i]? = some b' ∧ b'.WF1 ∧ b'.nMin = lo ∧ b'.nMax = hi ∧
        ∀ x, b'.cellAt x = if b.nMin ≤ x ∧ x ≤ b.nMax then b.cellAt x
                           else if lo ≤ x ∧ x ≤ hi then some Cell.occupied else none := by
  obtain ⟨lo, hi, a1, a2, a3, F⟩ := alignGrids_ok hwf h
  exact ⟨lo, hi, a1, a2, a3, F.length_eq.symm, fun i b hb => F.getElem?_left hb⟩

/-! ### `find_common_range`: the intersection of the amplifiers' band sets -/

/-- frequency `f` lies strictly inside one of the bands -/
def Inside (bands : List Band) (f : Int) : Prop := ∃ b ∈ bands, b.1 < f ∧ f < b.2

theorem inside_intersectBands (C B : List Band) (f : Int) :
    Inside (intersectBands C B) f ↔ Inside C f ∧ Inside B f := by
  -- two bands meet in (max of the lower edges, min of the upper edges)
  have key : ∀ c s : Band, (if c.1 ≤ s.1 then s.1 else c.1) < f ∧ f < (if c.2 ≤ s.2 then c.2 else s.2) ↔
      (c.1 < f ∧ f < c.2) ∧ (s.1 < f ∧ f < s.2) := fun c s =>
    (and_congr Int.max_lt Int.lt_min).trans and_and_and_comm
  constructor
  · rintro ⟨b, hb, h1, h2⟩
    obtain ⟨c, hc, hb⟩ := List.mem_flatMap.1 hb
    obtain ⟨s, hs, hb⟩ := List.mem_filterMap.1 hb
    simp only [Option.ite_none_right_eq_some, Option.some.injEq] at hb
    obtain ⟨-, rfl⟩ := hb
    exact ((key c s).1 ⟨h1, h2⟩).imp (fun h => ⟨c, hc, h⟩) fun h => ⟨s, hs, h⟩
  · rintro ⟨⟨c, hc, hcf⟩, ⟨s, hs, hsf⟩⟩
    obtain ⟨h1, h2⟩ := (key c s).2 ⟨hcf, hsf⟩
    exact ⟨_, List.mem_flatMap.2 ⟨c, hc, List.mem_filterMap.2 ⟨s, hs, if_pos (Int.lt_trans h1 h2)⟩⟩, h1, h2⟩

theorem inside_foldl_intersectBands (f : Int) : ∀ (u : List (List Band)) (c0 : List Band),
    Inside (u.foldl intersectBands c0) f ↔ Inside c0 f ∧ ∀ a ∈ u, Inside a f := by
  intro u
  induction u with
  | nil => simp
  | cons a as ih =>
    intro c0
    rw [List.foldl_cons, ih, inside_intersectBands, List.forall_mem_cons, and_assoc]

theorem mem_removeDuplicates (x : List Band) : ∀ (l acc : List (List Band)),
    x ∈ removeDuplicates acc l ↔ x ∈ acc ∨ x ∈ l := by
  intro l
  induction l with
  | nil => simp [removeDuplicates]
  | cons a as ih =>
    intro acc
    unfold removeDuplicates
    split
    · next hin =>
      -- `a` is in `acc` already: it adds nothing on the right either
      rw [ih, List.mem_cons, or_left_comm, or_iff_right_of_imp fun e => Or.inl (e ▸ hin)]
    · rw [ih, List.mem_append, List.mem_singleton, List.mem_cons, or_assoc]

theorem inside_sortBands (l : List Band) (f : Int) : Inside (sortBands l) f ↔ Inside l f := by
  simp only [Inside, sortBands, (sorted_perm _ _).mem_iff]

theorem commonRange_no_amp (dflt : Option Band) : commonRange [] dflt = dflt.toList := by
  cases dflt <;> rfl

end Gnpy.Slots
