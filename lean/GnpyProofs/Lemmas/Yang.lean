import GnpyModel.Yang
import GnpyProofs.Lemmas.Json
import GnpyProofs.Lemmas.Except
/- The legacy <-> YANG converters of GnpyModel/Yang.lean on trees and on single dicts (C18): nulls and decimal strings
   by recursion on the JSON tree (three property theorems of C18 are proved here, each with its forms for lists and
   members); the way back of generated per-degree targets and design bands as a fold of `Dict.set`, of per-frequency
   lists column by column. -/
namespace Gnpy.Yang

@[simp] theorem asObj_obj (l : Dict) : asObj (.obj l) = .ok l := rfl

@[simp] theorem asArr_arr (l : List J) : asArr (.arr l) = .ok l := rfl

theorem noneToEmpty_ne_null (j : J) : noneToEmpty j ≠ .null := by
  cases j with
  | arr l =>
    -- a list stays a list, converted or not
    simp only [noneToEmpty]
    split <;> simp
  | _ => simp [noneToEmpty]

/-- the image of a list is never the YANG spelling `[null]` of null -/
theorem beqL_noneToEmptyL (l : List J) : J.beqL (noneToEmptyL l) [.null] = false := by
  refine Bool.eq_false_iff.2 fun h => ?_
  have := J.eq_of_beqL _ _ h
  cases l <;> simp [noneToEmptyL, noneToEmpty_ne_null] at this

mutual
/-- **`None ↔ [None]` are inverse.**  For every legacy tree (no `[null]` list in it) turning every
null into `[null]` and back gives the tree again. -/
theorem none_empty_inverse (j : J) (h : noBoxedNull j = true) : emptyToNone (noneToEmpty j) = j :=
  match j, h with
  | .null, _ => by simp [noneToEmpty, emptyToNone, J.beqL, J.beq]
  | .bool _, _ | .int _, _ | .flt _, _ | .str _, _ => rfl
  | .arr l, h => by
    simp only [noBoxedNull, Bool.and_eq_true, Bool.not_eq_true'] at h
    simp [noneToEmpty, h.1, emptyToNone, beqL_noneToEmptyL, emptyToNoneL_noneToEmptyL l h.2]
  | .obj l, h => by simp [noneToEmpty, emptyToNone, emptyToNoneO_noneToEmptyO l h]
theorem emptyToNoneL_noneToEmptyL : ∀ l : List J, noBoxedNullL l = true → emptyToNoneL (noneToEmptyL l) = l
  | [], _ => rfl
  | x :: xs, h => by
    simp only [noBoxedNullL, Bool.and_eq_true] at h
    simp [noneToEmptyL, emptyToNoneL, none_empty_inverse x h.1, emptyToNoneL_noneToEmptyL xs h.2]
theorem emptyToNoneO_noneToEmptyO : ∀ l : List (String × J), noBoxedNullO l = true →
    emptyToNoneO (noneToEmptyO l) = l
  | [], _ => rfl
  | (k, v) :: xs, h => by
    simp only [noBoxedNullO, Bool.and_eq_true] at h
    simp [noneToEmptyO, emptyToNoneO, none_empty_inverse v h.1, emptyToNoneO_noneToEmptyO xs h.2]
end

mutual
/-- **`convert_none_to_empty` is idempotent** on every tree (it is the first step of `legacy_to_yang`) -/
theorem none_to_empty_idempotent (j : J) : noneToEmpty (noneToEmpty j) = noneToEmpty j :=
  match j with
  | .null => by simp [noneToEmpty, J.beqL, J.beq]
  | .bool _ | .int _ | .flt _ | .str _ => rfl
  | .arr l => by
    by_cases h : J.beqL l [.null] = true
    · simp [noneToEmpty, h]
    · simp [noneToEmpty, h, beqL_noneToEmptyL, noneToEmptyL_idem l]
  | .obj l => by simp [noneToEmpty, noneToEmptyO_idem l]
theorem noneToEmptyL_idem : ∀ l : List J, noneToEmptyL (noneToEmptyL l) = noneToEmptyL l
  | [] => rfl
  | x :: xs => by simp [noneToEmptyL, none_to_empty_idempotent x, noneToEmptyL_idem xs]
theorem noneToEmptyO_idem : ∀ l : List (String × J), noneToEmptyO (noneToEmptyO l) = noneToEmptyO l
  | [] => rfl
  | (k, v) :: xs => by simp [noneToEmptyO, none_to_empty_idempotent v, noneToEmptyO_idem xs]
end

mutual
theorem noneToEmpty_of_noBareNull : ∀ j : J, noBareNull j = true → noneToEmpty j = j
  | .null, h => by simp [noBareNull] at h
  | .bool _, _ | .int _, _ | .flt _, _ | .str _, _ => rfl
  | .arr l, h => by
    by_cases hb : J.beqL l [.null] = true
    · simp [noneToEmpty, hb]
    · simp only [noBareNull, hb, Bool.false_or] at h
      simp [noneToEmpty, hb, noneToEmptyL_of_noBareNull l h]
  | .obj l, h => by simp [noneToEmpty, noneToEmptyO_of_noBareNull l h]
theorem noneToEmptyL_of_noBareNull : ∀ l : List J, noBareNullL l = true → noneToEmptyL l = l
  | [], _ => rfl
  | x :: xs, h => by
    simp only [noBareNullL, Bool.and_eq_true] at h
    simp [noneToEmptyL, noneToEmpty_of_noBareNull x h.1, noneToEmptyL_of_noBareNull xs h.2]
theorem noneToEmptyO_of_noBareNull : ∀ l : List (String × J), noBareNullO l = true → noneToEmptyO l = l
  | [], _ => rfl
  | (k, v) :: xs, h => by
    simp only [noBareNullO, Bool.and_eq_true] at h
    simp [noneToEmptyO, noneToEmpty_of_noBareNull v h.1, noneToEmptyO_of_noBareNull xs h.2]
end

mutual
theorem emptyToNone_of_noBoxedNull : ∀ j : J, noBoxedNull j = true → emptyToNone j = j
  | .null, _ | .bool _, _ | .int _, _ | .flt _, _ | .str _, _ => rfl
  | .arr l, h => by
    simp only [noBoxedNull, Bool.and_eq_true, Bool.not_eq_true'] at h
    simp [emptyToNone, h.1, emptyToNoneL_of_noBoxedNull l h.2]
  | .obj l, h => by simp [emptyToNone, emptyToNoneO_of_noBoxedNull l h]
theorem emptyToNoneL_of_noBoxedNull : ∀ l : List J, noBoxedNullL l = true → emptyToNoneL l = l
  | [], _ => rfl
  | x :: xs, h => by
    simp only [noBoxedNullL, Bool.and_eq_true] at h
    simp [emptyToNoneL, emptyToNone_of_noBoxedNull x h.1, emptyToNoneL_of_noBoxedNull xs h.2]
theorem emptyToNoneO_of_noBoxedNull : ∀ l : List (String × J), noBoxedNullO l = true → emptyToNoneO l = l
  | [], _ => rfl
  | (k, v) :: xs, h => by
    simp only [noBoxedNullO, Bool.and_eq_true] at h
    simp [emptyToNoneO, emptyToNone_of_noBoxedNull v h.1, emptyToNoneO_of_noBoxedNull xs h.2]
end

mutual
/-- **`convert_dict` is idempotent.**  If the first pass succeeded and left no binary float behind
(it leaves one only for an integer stored under a string-typed key, which libyang refuses), a second
pass with the same declared digits returns the same tree: strings are kept, integers under
integer-typed keys are kept. -/
theorem convert_dict_idempotent (rp rp' : List (Nat × String)) (fd : Int) (j r : J)
    (h : convertDict rp fd j = .ok r) (hn : noFlt r = true) : convertDict rp' fd r = .ok r :=
  match j, h with
  | .obj l, h => by
    simp only [convertDict, Except.bind_eq_ok, Except.pure_eq_ok_iff] at h
    obtain ⟨l', hl, rfl⟩ := h
    simp [convertDict, convertDictO_second rp rp' l l' hl hn]
  | .arr l, h => by
    simp only [convertDict, Except.bind_eq_ok, Except.pure_eq_ok_iff] at h
    obtain ⟨l', hl, rfl⟩ := h
    simp [convertDict, convertDictL_second rp rp' fd l l' hl hn]
  | .bool b, h | .null, h | .str s, h => by
    simp only [convertDict, Except.pure_eq_ok_iff] at h
    subst h
    simp [convertDict]
  | .int i, h => by
    simp only [convertDict] at h
    split at h
    · -- `fd > 0`: printed as a decimal string, which the second pass keeps
      cases h; simp [convertDict]
    · split at h
      · -- `fd < 0`: the result is a float, excluded by `hn`
        cases h; simp [noFlt] at hn
      · -- `fd = 0`: the integer stays, and stays again
        cases h; simp [convertDict, *]
  | .flt b, h => by
    simp only [convertDict, Except.bind_eq_ok, Except.pure_eq_ok_iff] at h
    obtain ⟨s, _, rfl⟩ := h
    simp [convertDict]
theorem convertDictL_second : ∀ (rp rp' : List (Nat × String)) (fd : Int) (l r : List J),
    convertDictL rp fd l = .ok r → noFltL r = true → convertDictL rp' fd r = .ok r
  | rp, rp', fd, [], r, h, hn => by cases h; simp [convertDictL]
  | rp, rp', fd, x :: xs, r, h, hn => by
    simp only [convertDictL, Except.bind_eq_ok, Except.pure_eq_ok_iff] at h
    obtain ⟨y, hy, ys, hys, rfl⟩ := h
    simp only [noFltL, Bool.and_eq_true] at hn
    simp [convertDictL, convert_dict_idempotent rp rp' fd x y hy hn.1, convertDictL_second rp rp' fd xs ys hys hn.2]
theorem convertDictO_second : ∀ (rp rp' : List (Nat × String)) (l r : List (String × J)),
    convertDictO rp l = .ok r → noFltO r = true → convertDictO rp' r = .ok r
  | rp, rp', [], r, h, hn => by cases h; simp [convertDictO]
  | rp, rp', (k, v) :: xs, r, h, hn => by
    simp only [convertDictO, Except.bind_eq_ok, Except.pure_eq_ok_iff] at h
    obtain ⟨y, hy, ys, hys, rfl⟩ := h
    simp only [noFltO, Bool.and_eq_true] at hn
    simp [convertDictO, convert_dict_idempotent rp rp' (precisionD k) v y hy hn.1,
      convertDictO_second rp rp' xs ys hys hn.2]
end

theorem applyTargets_append (l1 l2 : List J) (p : Dict) :
    applyTargets (l1 ++ l2) p = applyTargets l1 p >>= applyTargets l2 := by
  induction l1 generalizing p with
  | nil => simp [applyTargets]
  | cons t ts ih => simp [applyTargets, ih]

theorem applyTarget_generated (p : Dict) (kind d : String) (v : J) (hk : kind ∈ eqTypes) :
    applyTarget p [("degree_uid", .str d), (kind, v)] = setDegree p kind d v := by
  simp only [eqTypes, List.mem_cons, List.not_mem_nil, or_false] at hk
  rcases hk with rfl | rfl | rfl <;> simp [applyTarget, applyKind, Dict.get]

/-- what is stored under `kind` when the degree dict holds the entries `cur`: nothing while there are none (`setDegree`
creates the dict on first use) -/
def degreeEntry (cur : Dict) : Option J := if cur = [] then none else some (.obj cur)

theorem setDegree_degreeEntry {p cur : Dict} {kind : String} (hp : p.get? kind = degreeEntry cur) (d : String) (v : J) :
    setDegree p kind d v = .ok (p.set kind (.obj (cur.set d v))) := by
  unfold degreeEntry at hp
  split at hp <;> simp_all [setDegree, Dict.set]

/-- replaying the generated targets of one kind assigns them one after the other to that kind's degree dict, and
    touches no other key -/
theorem applyTargets_targetsOf (kind : String) (hk : kind ∈ eqTypes) :
    ∀ (ts cur p : Dict), p.get? kind = degreeEntry cur →
      ∃ q, applyTargets (targetsOf kind ts) p = .ok q ∧
        ∀ k, q.get? k = if k = kind then degreeEntry (ts.foldl (fun acc dv => acc.set dv.1 dv.2) cur) else p.get? k
  | [], cur, p, hp => ⟨p, by simp [targetsOf, applyTargets], fun k => by split <;> simp [*]⟩
  | (d, v) :: ts, cur, p, hp => by
    obtain ⟨q, hq, hqk⟩ := applyTargets_targetsOf kind hk ts (cur.set d v) (p.set kind (.obj (cur.set d v)))
      (by simp [degreeEntry, Dict.set_ne_nil])
    refine ⟨q, ?_, fun k => ?_⟩
    · simpa [targetsOf, applyTargets, applyTarget_generated p kind d v hk, setDegree_degreeEntry hp] using hq
    · rw [hqk]
      split <;> simp [*]

theorem collectBands_generated : ∀ (ts acc : Dict),
    collectBands (ts.map (fun dv => J.obj [("degree_uid", .str dv.1), ("design_bands", dv.2)])) acc
      = .ok (ts.foldl (fun acc dv => acc.set dv.1 dv.2) acc)
  | [], acc => by simp [collectBands]
  | (d, v) :: ts, acc => by simpa [collectBands, bandOf, Dict.get] using collectBands_generated ts _

theorem strList_map_str : ∀ l : List String, strList (l.map J.str) = .ok l
  | [] => rfl
  | x :: xs => by simp [strList, strList_map_str xs]

theorem column_zipDicts (ka kb : String) (hne : ka ≠ kb) : ∀ (a b : List J), a.length = b.length →
    column ka (zipDicts ka kb a b) = .ok a ∧ column kb (zipDicts ka kb a b) = .ok b
  | [], [], _ => by simp [zipDicts, column]
  | x :: xs, y :: ys, h => by
    have ih := column_zipDicts ka kb hne xs ys (by simpa using h)
    simp only [zipDicts] at ih
    simp [zipDicts, column, Dict.get, ih, hne]
  | [], _ :: _, h | _ :: _, [], h => by simp at h

end Gnpy.Yang
