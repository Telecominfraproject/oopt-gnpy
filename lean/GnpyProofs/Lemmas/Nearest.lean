import Mathlib.Algebra.Order.Field.Basic
/- nearest integers in an ordered field: what the proofs about `rint` (ℝ) and `roundHalfEvenDiv` (ℚ) share -/
namespace Gnpy

/-- an integer within one half of a number and one strictly within one half of it are equal -/
theorem nearestInt_unique {α : Type*} [Field α] [LinearOrder α] [IsStrictOrderedRing α] {m n : ℤ} {x : α}
    (hm : |(m : α) - x| ≤ 1 / 2) (hn : |(n : α) - x| < 1 / 2) : m = n := by
  have h : |((m - n : ℤ) : α)| < 1 := by
    rw [Int.cast_sub, ← sub_sub_sub_cancel_right _ _ x]
    exact lt_of_le_of_lt (abs_sub _ _) ((add_lt_add_of_le_of_lt hm hn).trans_eq (add_halves 1))
  rwa [← sub_eq_zero, ← Int.abs_lt_one_iff, ← @Int.cast_lt α, Int.cast_abs, Int.cast_one]

end Gnpy
