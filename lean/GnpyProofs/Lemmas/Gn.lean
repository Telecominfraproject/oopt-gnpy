import GnpyModel
import GnpyProofs.Lemmas.Db
import GnpyProofs.Lemmas.ListIdioms
/-
For C03 (model: GnpyModel/Gn.lean), all over ℝ: the instance `HasPi ℝ` (π := Real.pi), the signs of the model's constants,
the proof-side vocabulary (`WF`, `Raised`, `wIdx`), the basic facts about the kernel, `nli_eq`, and two statements of C03
that stand here because others rest on them: `alpha_is_db` (C05) and `psi_nonneg` (`eta_nonneg`).
-/
namespace Gnpy.Gn

/-! ### π, the constants, fibre coefficients -/

noncomputable instance : HasPi ℝ := ⟨Real.pi⟩
@[simp] theorem haspi_real : (HasPi.pi : ℝ) = Real.pi := rfl

theorem cLight_pos : (0:ℝ) < cLight := by simp only [cLight, Nat.cast_ofNat]; norm_num
theorem n1_pos : (0:ℝ) < n1 := by simp only [n1, Nat.cast_ofNat]; norm_num
theorem coreRadius_pos : (0:ℝ) < coreRadius := by simp only [coreRadius, Nat.cast_ofNat]; norm_num

/-- the area scaling law passes through the configured effective area at the reference frequency -/
theorem effAreaScaling_ref (fib : Fibre ℝ) (hA : 0 < fib.effArea) (hf : 0 < fib.refF) :
    effAreaScaling fib fib.refF = fib.effArea := by
  simp only [effAreaScaling, contrast, transc_sqrt, transc_log, transc_exp, haspi_real, Nat.cast_ofNat, Nat.cast_one]
  -- only the signs of the three constants matter
  have hr : (0:ℝ) < coreRadius := coreRadius_pos
  have hn : (0:ℝ) < n1 := n1_pos
  have hc : (0:ℝ) < cLight := cLight_pos
  generalize (coreRadius : ℝ) = r at *
  generalize (n1 : ℝ) = n at *
  generalize (cLight : ℝ) = c at *
  have hs : ∀ x : ℝ, 0 ≤ x → Real.sqrt (2 * (1 / 2 * (x * x))) = x := fun x hx => by
    rw [← mul_assoc, mul_one_div_cancel two_ne_zero, one_mul, Real.sqrt_mul_self hx]
  have hinv : 2 * Real.pi * fib.refF / c * r * n = (c / (2 * Real.pi * fib.refF * r * n))⁻¹ := by
    rw [inv_div]; ring
  -- `sqrt (2 · contrast)` is the `x` of `contrast`, whose first factor is the inverse of the factor in front of the
  -- root in `v`: at `refF`, `v = exp (π r² / A_eff)`
  rw [hs _ (by positivity), hinv, inv_mul_cancel_left₀ (by positivity), Real.log_exp]
  -- `π · w² = π · (r² / (π r² / A_eff)) = A_eff`
  rw [div_mul_div_comm, Real.mul_self_sqrt (by positivity), mul_div_assoc', div_div_eq_mul_div,
    mul_div_cancel_left₀ _ (by positivity)]

/-- `alpha = loss[dB/m] · ln 10 / 10` -/
theorem alpha_is_db (c : ℝ) : alphaOfLoss c = c * Real.log 10 / 10 := by
  simp only [alphaOfLoss, transc_log, transc_exp, Nat.cast_ofNat, Nat.cast_one, Real.log_exp]
  rw [mul_one_div, div_div_eq_mul_div]

theorem load_f {fib : Fibre ℝ} {f b p : ℝ} {c : LCh ℝ} (h : load fib f b p = some c) : c.f = f := by
  unfold load at h
  split at h
  · cases h; rfl
  · cases h

/-! ### vocabulary -/

/-- physically meaningful loaded channel: positive loss coefficient and baud rate, non-negative power -/
structure WF (c : LCh ℝ) : Prop where
  alpha_pos : 0 < c.alpha
  b_pos : 0 < c.b
  p_nonneg : 0 ≤ c.p

/-- `c'` is `c` with its power raised (or kept) -/
structure Raised (c c' : LCh ℝ) : Prop where
  f : c'.f = c.f
  b : c'.b = c.b
  alpha : c'.alpha = c.alpha
  beta2 : c'.beta2 = c.beta2
  gamma : c'.gamma = c.gamma
  p : c.p ≤ c'.p

theorem Raised.refl (c : LCh ℝ) : Raised c c := ⟨rfl, rfl, rfl, rfl, rfl, le_refl _⟩

theorem Raised.wf {c c' : LCh ℝ} (h : Raised c c') (w : WF c) : WF c' :=
  ⟨by rw [h.alpha]; exact w.alpha_pos, by rw [h.b]; exact w.b_pos, le_trans w.p_nonneg h.p⟩

/-! ### the kernel: weights, `_psi`, `eta`, `term` -/

theorem spmW_eq : (spmW : ℝ) = 16 / 27 := by simp only [spmW, Nat.cast_ofNat]
theorem xpmW_eq : (xpmW : ℝ) = 32 / 27 := by simp only [xpmW, Nat.cast_ofNat]; norm_num
theorem spmW_nonneg : (0:ℝ) ≤ spmW := spmW_eq ▸ by norm_num
theorem xpmW_nonneg : (0:ℝ) ≤ xpmW := xpmW_eq ▸ by norm_num
theorem wgtF_nonneg (ci cj : LCh ℝ) : 0 ≤ wgtF ci cj := ite_nonneg xpmW_nonneg spmW_nonneg

/-- the asinh kernel is non-negative (arsinh is monotone and the pump band has non-negative width) -/
theorem psi_nonneg (len : ℝ) (ci cj : LCh ℝ) (hi : WF ci) (hj : WF cj) : 0 ≤ psi len ci cj := by
  -- `ha`, `hbi` are for the two `positivity` calls
  have ha := hj.alpha_pos
  have hbi := hi.b_pos
  have hb := div_nonneg hj.b_pos.le (zero_le_two (α := ℝ))
  simp only [psi, transc_abs, transc_asinh, haspi_real, Nat.cast_ofNat, Nat.cast_one]
  refine mul_nonneg (div_nonneg (sub_nonneg.2 (Real.arsinh_le_arsinh.2 ?_)) zero_le_two) ?_
  · -- the two arguments are the band edges `Δf ∓ B/2` times the same non-negative factor
    exact mul_le_mul_of_nonneg_left ((sub_le_self _ hb).trans (le_add_of_nonneg_right hb)) (by positivity)
  · exact div_nonneg (mul_self_nonneg _) (by positivity)

theorem eta_nonneg (w len : ℝ) (ci cj : LCh ℝ) (hw : 0 ≤ w) (hi : WF ci) (hj : WF cj) : 0 ≤ eta w len ci cj := by
  have hb := hi.b_pos.le
  exact mul_nonneg hb (div_nonneg (mul_nonneg (mul_nonneg (mul_self_nonneg _) hw) (psi_nonneg len ci cj hi hj))
    (mul_nonneg hb (mul_self_nonneg _)))

theorem term_scale (w len k : ℝ) (ci cj : LCh ℝ) :
    term w len (scale k ci) (scale k cj) = k ^ 3 * term w len ci cj := by
  simp only [term, eta, psi, scale]
  ring

theorem eta_raised (w len : ℝ) {ci ci' cj cj' : LCh ℝ} (hi : Raised ci ci') (hj : Raised cj cj') :
    eta w len ci' cj' = eta w len ci cj := by
  simp only [eta, psi, hi.f, hi.b, hi.beta2, hi.gamma, hj.f, hj.b, hj.alpha, hj.beta2]

theorem term_mono {w len : ℝ} {ci ci' cj cj' : LCh ℝ} (hw : 0 ≤ w) (hi : Raised ci ci') (hj : Raised cj cj')
    (wi : WF ci) (wj : WF cj) : term w len ci cj ≤ term w len ci' cj' := by
  -- `η` does not see the powers (`eta_raised`); the factor `pᵢ · pⱼ²` in front is monotone on non-negative powers
  simp only [term, eta_raised w len hi hj]
  exact mul_le_mul_of_nonneg_right
    (mul_le_mul hi.p (mul_self_le_mul_self wj.p_nonneg hj.p) (mul_self_nonneg _) (le_trans wi.p_nonneg hi.p))
    (eta_nonneg w len ci cj hw wi wj)

/-! ### `compute_nli` as a double sum -/

/-- the weight matrix `spm·I + xpm·(1 − I)` of the code -/
noncomputable abbrev wIdx (i j : Nat) : ℝ := if i = j then spmW else xpmW

theorem wIdx_nonneg (i j : Nat) : 0 ≤ wIdx i j := ite_nonneg spmW_nonneg xpmW_nonneg

theorem rowSum_eq_sum (len : ℝ) (i : Nat) (ci : LCh ℝ) : ∀ (l : List (LCh ℝ)) (j : Nat),
    rowSum len i ci j l = ((l.zipIdx j).map fun q => term (wIdx i q.2) len ci q.1).sum
  | [], _ => Nat.cast_zero
  | cj :: l, j => by rw [rowSum, rowSum_eq_sum len i ci l]; rfl

theorem nliFrom_eq_map (len : ℝ) (all : List (LCh ℝ)) : ∀ (l : List (LCh ℝ)) (i : Nat),
    nliFrom len all i l = (l.zipIdx i).map fun q => rowSum len q.2 q.1 0 all
  | [], _ => rfl
  | ci :: l, i => by rw [nliFrom, nliFrom_eq_map len all l]; rfl

/-- channel `i` receives the sum over all pumps `j` of the weighted terms: from here on the laws of `nli` are laws of
`List.sum` and `List.map` -/
theorem nli_eq (len : ℝ) (cs : List (LCh ℝ)) :
    nli len cs = cs.zipIdx.map fun q => (cs.zipIdx.map fun r => term (wIdx q.2 r.2) len q.1 r.1).sum := by
  rw [nli, nliFrom_eq_map]; exact List.map_congr_left fun q _ => rowSum_eq_sum len q.2 q.1 cs 0

/-! ### the constructor's sort -/

theorem sortByF_perm (l : List (ℝ × ℝ × ℝ)) : (sortByF l).Perm l :=
  sortByF_eq l ▸ List.perm_insertionSort _ l

theorem sortByF_sorted (l : List (ℝ × ℝ × ℝ)) (h : l.Pairwise (fun a b => a.1 ≠ b.1)) :
    (sortByF l).Pairwise (fun a b => a.1 < b.1) :=
  sortByF_eq l ▸ pairwise_insertionSort_of_pairwise (r := fun a b => a.1 < b.1) (fun _ _ _ => lt_trans) l
    (h.imp lt_or_gt_of_ne)

end Gnpy.Gn
