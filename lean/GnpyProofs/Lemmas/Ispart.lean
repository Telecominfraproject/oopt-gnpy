import GnpyModel
import Mathlib.Data.List.Nodup
/- `ispart` (request.py) versus the subsequence relation; the route-list clean-up `correct_json_route_list` as a
   filter.  Model: GnpyModel/Route.lean. -/
namespace Gnpy.Route

/-! ### `ispart` -/

theorem sublist_of_pairwise_idxOf_le {b a : List V} (hnd : a.Nodup) (hsub : ∀ x ∈ a, x ∈ b)
    (hp : a.Pairwise (fun x y => b.idxOf x ≤ b.idxOf y)) : a.Sublist b := by
  -- the positions in `b` of the members of `a` increase strictly, since `a` has no repetition
  have hlt : (a.pmap (fun x hx => (⟨b.idxOf x, List.idxOf_lt_length_of_mem hx⟩ : Fin b.length)) hsub).Pairwise
      (· < ·) :=
    (hp.and hnd).pmap hsub fun x hx y _ h => Nat.lt_of_le_of_ne h.1 fun e => h.2 ((List.idxOf_inj hx).1 e)
  -- `b` read at strictly increasing positions is a sublist of `b`; at these positions it reads `a`
  simpa [List.map_pmap] using List.map_getElem_sublist hlt

theorem pairwise_idxOf_lt_of_nodup {b : List V} (hb : b.Nodup) : b.Pairwise (fun x y => b.idxOf x < b.idxOf y) :=
  List.pairwise_iff_getElem.2 fun i j hi hj hij => by rwa [hb.idxOf_getElem, hb.idxOf_getElem]

theorem ispartAux_iff (b : List V) : ∀ (a : List V) (j : Nat),
    ispartAux b j a = true ↔ (∀ x ∈ a, x ∈ b) ∧ List.IsChain (· ≤ ·) (j :: a.map (fun x => b.idxOf x))
  | [], j => by simp [ispartAux]
  | e :: rest, j => by
    have ih := ispartAux_iff b rest (b.idxOf e)
    simp only [ispartAux, List.contains_iff_mem, List.map_cons, List.isChain_cons_cons, List.mem_cons,
      forall_eq_or_imp]
    by_cases he : e ∈ b
    · by_cases hj : j ≤ b.idxOf e
      · simp only [he, hj, if_true, ih, true_and]
      · simp [he, hj]
    · simp [he]

/-! ### route-list clean-up (`correct_json_route_list`) -/

/-- an include entry that cannot be used: not a node of the topology, or a transceiver -/
def badNode (isNode isTrx : V → Bool) (x : V) : Bool := !(isNode x) || isTrx x

theorem eraseFirst_skip (x : V) (h : Bool) (rest : List (V × Bool)) : ∀ pre : List (V × Bool),
    (∀ p ∈ pre, p.1 ≠ x) → eraseFirst x (pre ++ (x, h) :: rest) = pre ++ rest
  | [], _ => by simp [eraseFirst]
  | (y, hy) :: pre, hp => by
    have hne : y ≠ x := hp (y, hy) (by simp)
    have ih := eraseFirst_skip x h rest pre (fun p hp' => hp p (List.mem_cons_of_mem _ hp'))
    simp [eraseFirst, hne, ih]

/-- the loop over the copy, run on the list itself (`pre` = the entries already passed and kept): it stops at the first
unusable STRICT entry, and otherwise keeps exactly the usable entries -/
theorem cleanLoop_eq (isNode isTrx : V → Bool) : ∀ (temp pre : List (V × Bool)),
    (∀ p ∈ pre, badNode isNode isTrx p.1 = false) →
    cleanLoop isNode isTrx temp (pre ++ temp) =
      if temp.any (fun p => badNode isNode isTrx p.1 && p.2) then .error .strictUnknown
      else .ok (pre ++ temp.filter (fun p => !(badNode isNode isTrx p.1)))
  | [], pre, _ => by simp [cleanLoop]
  | (x, st) :: temp, pre, hpre => by
    cases hb : badNode isNode isTrx x with
    | true =>
      -- `cleanLoop` spells the test out; `simp` needs it in that form
      have hb' : (!(isNode x) || isTrx x) = true := hb
      cases st with
      | true => simp [cleanLoop, hb', hb]
      | false =>
        have hskip := eraseFirst_skip x false temp pre fun p hp he => by
          have := hpre p hp
          rw [he, hb] at this
          cases this
        simp only [cleanLoop, hb', if_true, Bool.not_false, hskip, cleanLoop_eq isNode isTrx temp pre hpre,
          List.any_cons, hb, Bool.and_false, Bool.false_or, List.filter_cons, Bool.not_true, Bool.false_eq_true, if_false]
    | false =>
      have hb' : (!(isNode x) || isTrx x) = false := hb
      have ih := cleanLoop_eq isNode isTrx temp (pre ++ [(x, st)])
        (List.forall_mem_append.2 ⟨hpre, List.forall_mem_singleton.2 hb⟩)
      simp only [List.append_assoc, List.singleton_append] at ih
      simp only [cleanLoop, hb', Bool.false_eq_true, if_false, ih, List.any_cons, hb, Bool.false_and, Bool.false_or,
        List.filter_cons, Bool.not_false, if_true]

/-- the clean-up in closed form: the two end-point tests, then the loop as a test and a filter -/
theorem correctRouteList_eq (isNode isTrx : V → Bool) (s t : V) (route : List (V × Bool)) :
    correctRouteList isNode isTrx s t route =
      if !(isTrx s) then .error .sourceNotTrx else if !(isTrx t) then .error .destNotTrx
      else if (stripEnds s t route).any (fun p => badNode isNode isTrx p.1 && p.2) then .error .strictUnknown
      else .ok ((stripEnds s t route).filter (fun p => !(badNode isNode isTrx p.1))) := by
  have h := cleanLoop_eq isNode isTrx (stripEnds s t route) [] (fun _ h => nomatch h)
  simp only [List.nil_append] at h
  simp only [correctRouteList, h]

end Gnpy.Route
