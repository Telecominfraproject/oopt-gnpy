import GnpyModel.Sync
import Mathlib.Data.List.Forall2
import GnpyProofs.Lemmas.Response
/- what happens to the synchronisation vectors before the path computation sees them (C12): `deduplicate_disjunctions`
   and the renaming of request ids that `requests_aggregation` performs.  Model: GnpyModel/Sync.lean; the aggregation
   itself is that of GnpyModel/Response.lean, whose facts stand in Lemmas/Response.lean. -/
namespace Gnpy

theorem mem_eraseIdx_of_ne {α : Type} {x d : α} {l : List α} {j : Nat} (hx : x ∈ l) (hj : l[j]? = some d)
    (hne : x ≠ d) : x ∈ l.eraseIdx j := by
  obtain ⟨i, hi⟩ := List.mem_iff_getElem?.1 hx
  exact List.mem_eraseIdx_iff_getElem?.2 ⟨i, fun e => hne (Option.some.inj ((e ▸ hi).symm.trans hj)), hi⟩

end Gnpy
namespace Gnpy.Sync
open Gnpy.Response

/-! ### `deduplicate_disjunctions` -/

/-- every vector of `l0` still has a vector over the same set of requests in `l` -/
def Covers (l0 l : List Disj) : Prop := ∀ d ∈ l0, ∃ d' ∈ l, sameSet d.reqs d'.reqs = true

theorem dedupInner_spec (l0 : List Disj) (elem : Disj) : ∀ (fuel j : Nat) (l : List Disj),
    elem ∈ l → Covers l0 l → Covers l0 (dedupInner elem fuel j l) ∧ (dedupInner elem fuel j l).Sublist l
  | 0, _, l, _, hc => ⟨hc, List.Sublist.refl _⟩
  | fuel + 1, j, l, he, hc => by
    unfold dedupInner
    split
    · exact ⟨hc, List.Sublist.refl _⟩
    next d hj =>
      split
      next hcond =>
        -- `d`, another vector over the set of `elem`, is removed: `elem` covers what `d` covered
        simp only [Bool.and_eq_true, bne_iff_ne, ne_eq] at hcond
        have he' : elem ∈ l.eraseIdx j := mem_eraseIdx_of_ne he hj fun e => hcond.2 (by rw [e])
        have hc' : Covers l0 (l.eraseIdx j) := fun d0 hd0 => by
          obtain ⟨w, hw, hs⟩ := hc d0 hd0
          by_cases hwd : w = d
          · exact ⟨elem, he', sameSet_trans hs (hwd ▸ sameSet_symm hcond.1)⟩
          · exact ⟨w, mem_eraseIdx_of_ne hw hj hwd, hs⟩
        obtain ⟨hcov, hsub⟩ := dedupInner_spec l0 elem fuel (j + 1) (l.eraseIdx j) he' hc'
        exact ⟨hcov, hsub.trans (List.eraseIdx_sublist l j)⟩
      · exact dedupInner_spec l0 elem fuel (j + 1) l he hc

theorem dedupOuter_spec (l0 : List Disj) : ∀ (fuel i : Nat) (l : List Disj), Covers l0 l →
    Covers l0 (dedupOuter fuel i l) ∧ (dedupOuter fuel i l).Sublist l
  | 0, _, l, hc => ⟨hc, List.Sublist.refl _⟩
  | fuel + 1, i, l, hc => by
    unfold dedupOuter
    split
    · exact ⟨hc, List.Sublist.refl _⟩
    next e hi =>
      obtain ⟨hcov, hsub⟩ := dedupInner_spec l0 e l.length 0 l (List.mem_of_getElem? hi) hc
      obtain ⟨hcov', hsub'⟩ := dedupOuter_spec l0 fuel (i + 1) _ hcov
      exact ⟨hcov', hsub'.trans hsub⟩

/-! ### the aggregation, with the renaming it performs made explicit -/

theorem rn_mem_renameIn (a b : String) {x : String} {d : Disj} (hx : x ∈ d.reqs) : rn a b x ∈ (renameIn a b d).reqs := by
  by_cases hxa : x = a
  · simp [renameIn, rn, hxa ▸ hx, hxa]
  · rw [rn, if_neg hxa, renameIn]
    split
    · exact List.mem_append_left _ ((List.mem_erase_of_ne hxa).2 hx)
    · exact hx

/-- `ds'` are the vectors `ds`, same ids, same order, with every request id `x` replaced by `ren x` -/
def Renamed (ren : String → String) (ds ds' : List Disj) : Prop :=
  List.Forall₂ (fun d d' => d'.id = d.id ∧ ∀ x ∈ d.reqs, ren x ∈ d'.reqs) ds ds'

theorem renamed_refl (ds : List Disj) : Renamed (fun x => x) ds ds :=
  List.forall₂_same.2 fun _ _ => ⟨rfl, fun _ h => h⟩

theorem renamed_step {ren : String → String} (a b : String) {ds cur : List Disj} (h : Renamed ren ds cur) :
    Renamed (fun x => rn a b (ren x)) ds (cur.map (renameIn a b)) :=
  List.forall₂_map_right_iff.2 (h.imp fun _ _ hd =>
    ⟨(renameIn_id a b _).trans hd.1, fun x hx => rn_mem_renameIn a b (hd.2 x hx)⟩)

section
variable {κ α : Type} [DecidableEq κ] [Add α]

/-- the traced step is the step of the C19 model -/
theorem aggStepT_fst (st : (List (AReq κ α) × List Disj) × (String → String)) (i : Nat) :
    (aggStepT st i).1 = aggStepD st.1 i := by
  unfold aggStepT
  split
  next h1 => simp only [aggStepD, h1]
  next req h1 =>
    split
    next h2 => simp only [aggStepD, h1, h2]
    next => rfl

/-- the renaming the traced step returns describes the vectors after the step -/
theorem aggStepT_renamed {ds : List Disj} (st : (List (AReq κ α) × List Disj) × (String → String)) (i : Nat)
    (h : Renamed st.2 ds st.1.2) : Renamed (aggStepT st i).2 ds (aggStepT st i).1.2 := by
  unfold aggStepT
  split
  · exact h
  next req h1 =>
    split
    · exact h
    next oldId newId h2 =>
      simp only [aggStepD, h1, h2]
      exact renamed_step oldId newId (renamed_step req.idStr newId h)

end

end Gnpy.Sync
