import GnpyModel.Yang
import GnpyProofs.Lemmas.Json
import GnpyProofs.Lemmas.Yang
/- Document-level lemmas for C18 (model: GnpyModel/Yang.lean): the combinators that walk a document (`forEachIn`,
   `onKey`, `withParams`, ...) in closed form; each structural converter is the identity where its source spelling is
   absent, hence `legacy_to_yang` / `yang_to_legacy` are the identity on their normal forms; a round trip of the
   entries of a list, or of the `params` of an element, lifts through `forEachIn`, `withParams`, `onRoadmParams`
   (`forEachIn_roundtrip`, `withParams_roundtrip`, `onRoadmParams_roundtrip`, with the relation `ElemRel`). -/
namespace Gnpy.Yang

/-! ### the tests of the normal-form predicates

The predicates of the model test a member with a `match` on the lookup `d.get? key` (or on a value); these turn such a
test into the lookup equation and the property of the value.  They are applied to the predicate itself
(`someArr_of_match h` with `h : topoYangNormal inner = true`): the `match` written here unifies with the unfolded
predicate by definitional unfolding, so its arms stand in the model's order, and `rw`/`simp` do not find it. -/

theorem someArr_of_match {o : Option J} {ok : J → Bool}
    (h : (match o with | some (.arr l) => l.all ok | _ => false) = true) :
    ∃ l, o = some (.arr l) ∧ ∀ ej ∈ l, ok ej = true := by
  split at h
  next l => exact ⟨l, rfl, List.all_eq_true.1 h⟩
  next => cases h

theorem someObj_of_match {o : Option J} {N : Dict → Bool}
    (h : (match o with | some (.obj x) => N x | _ => false) = true) : ∃ x, o = some (.obj x) ∧ N x = true := by
  split at h
  next x => exact ⟨x, rfl, h⟩
  next => cases h

theorem optObj_of_match {o : Option J} {N : Dict → Bool}
    (h : (match o with | none => true | some (.obj x) => N x | some _ => false) = true) :
    o = none ∨ ∃ x, o = some (.obj x) ∧ N x = true := by
  split at h
  next => exact .inl rfl
  next x => exact .inr ⟨x, rfl, h⟩
  next => cases h

theorem optArr_of_listAll {d : Dict} {key : String} {ok : J → Bool} (h : listAll d key ok = true) :
    d.get? key = none ∨ ∃ l, d.get? key = some (.arr l) ∧ ∀ ej ∈ l, ok ej = true := by
  unfold listAll at h
  split at h
  next hget => exact .inl hget
  next l hget => exact .inr ⟨l, hget, List.all_eq_true.1 h⟩
  next => cases h

theorem obj_of_match {v : J} {N : Dict → Bool} (h : (match v with | .obj x => N x | _ => false) = true) :
    ∃ x, v = .obj x ∧ N x = true := by
  split at h
  next x => exact ⟨x, rfl, h⟩
  next => cases h

/-! ### the combinators that walk a document -/

theorem forEachIn_ok {d : Dict} {key : String} {f : Dict → PyR Dict} {l l' : List J}
    (hget : d.get? key = some (.arr l)) (hm : l.mapM (fun e => do return J.obj (← f (← asObj e))) = .ok l') :
    forEachIn d key f = .ok (d.set key (.arr l')) := by
  -- `simp` turns `pure` into `.ok` under the binder of `mapM` as well: `hm` is brought to that form to be usable
  simp only [Except.pure_eq_ok] at hm
  simp [forEachIn, Dict.get_eq_ok.2 hget, hm]

/-- `P` and `hf` are kept apart so that one fact `h` about the entries serves every converter run over the same list -/
theorem forEachIn_id {d : Dict} {key : String} {f : Dict → PyR Dict} {l : List J} {P : Dict → Prop}
    (hget : d.get? key = some (.arr l)) (h : ∀ ej ∈ l, ∃ e, ej = .obj e ∧ P e) (hf : ∀ e, P e → f e = .ok e) :
    forEachIn d key f = .ok d := by
  rw [forEachIn_ok hget (Except.mapM_id _ l fun ej hej => ?_), Dict.set_same hget]
  obtain ⟨e, rfl, he⟩ := h ej hej
  simp [hf e he]

theorem forEachIfPresent_id {d : Dict} {key : String} {f : Dict → PyR Dict} {ok : J → Bool}
    (hl : listAll d key ok = true) (h : ∀ ej, ok ej = true → ∃ e, ej = .obj e ∧ f e = .ok e) :
    forEachIfPresent d key f = .ok d := by
  unfold forEachIfPresent
  obtain hn | ⟨l, hget, hall⟩ := optArr_of_listAll hl
  · simp [hn]
  · simpa [hget] using forEachIn_id hget (fun ej hej => h ej (hall ej hej)) fun _ he => he

theorem onKey_ok {d : Dict} {key : String} {f : Dict → PyR Dict} {inner r : Dict}
    (hget : d.get? key = some (.obj inner)) (h : f inner = .ok r) : onKey d key f = .ok (d.set key (.obj r)) := by
  simp [onKey, Dict.get_eq_ok.2 hget, h]

theorem onKey_single {k : String} {f : Dict → PyR Dict} {inner : Dict} (h : f inner = .ok inner) :
    onKey [(k, .obj inner)] k f = .ok [(k, .obj inner)] := by
  rw [onKey_ok (by simp) h]
  simp [Dict.set]

theorem withParams_none {f : Dict → PyR Dict} {e : Dict} (hp : e.get? "params" = none) : withParams e f = .ok e := by
  simp [withParams, hp]

theorem withParams_obj {f : Dict → PyR Dict} {e p r : Dict} (hp : e.get? "params" = some (.obj p)) (h : f p = .ok r) :
    withParams e f = .ok (e.set "params" (.obj r)) := by
  rw [withParams, if_pos (by simp [hp])]
  -- `onParams e f` is `onKey e "params" f` by definition
  exact onKey_ok hp h

theorem withParams_get?_of_ne {f : Dict → PyR Dict} {e y : Dict} (h : withParams e f = .ok y) {k : String}
    (hk : k ≠ "params") : y.get? k = e.get? k := by
  unfold withParams at h
  split at h
  · simp only [onParams, Except.bind_eq_ok, Except.pure_eq_ok_iff] at h
    obtain ⟨_, _, _, _, _, _, rfl⟩ := h
    simp [hk]
  · cases h
    rfl

/-- a converter of ROADM params is `withParams` on a ROADM and does nothing elsewhere -/
theorem onRoadmParams_eq {f : Dict → PyR Dict} {e : Dict} {t : J} (ht : e.get? "type" = some t) :
    onRoadmParams f e = if t = .str "Roadm" then withParams e f else .ok e := by
  by_cases h : t = .str "Roadm" <;> simp [onRoadmParams, isRoadmWithParams, withParams, Dict.get_eq_ok.2 ht, h]

theorem withParams_id {f : Dict → PyR Dict} {e : Dict} {P : Dict → Prop}
    (hp : e.get? "params" = none ∨ ∃ p, e.get? "params" = some (.obj p) ∧ P p) (hf : ∀ p, P p → f p = .ok p) :
    withParams e f = .ok e := by
  rcases hp with hp | ⟨p, hp, hP⟩
  · exact withParams_none hp
  · rw [withParams_obj hp (hf p hP), Dict.set_same hp]

theorem onRoadmParams_id {f : Dict → PyR Dict} {e : Dict} {P : Dict → Prop} (ht : e.has "type" = true)
    (hp : e.get? "params" = none ∨ ∃ p, e.get? "params" = some (.obj p) ∧ P p) (hf : ∀ p, P p → f p = .ok p) :
    onRoadmParams f e = .ok e := by
  obtain ⟨t, htt⟩ := Option.isSome_iff_exists.1 (by simpa using ht)
  rw [onRoadmParams_eq htt]
  split
  · exact withParams_id hp hf
  · rfl

/-! ### the converters of one dict

Each is the identity where the spelling it consumes is absent (`…_absent`; `rangeToYang_present`: where the spelling
it adds is present), and every output is in that state (`…_out`): this is why each converter is idempotent. -/

theorem popTargets_absent {k : String} {p : Dict} (h : p.get? k = none) : popTargets k p = .ok (p, []) := by
  simp [popTargets, h]

theorem degreeToYang_absent {p : Dict} (h : ∀ k ∈ eqTypes, p.get? k = none) : degreeToYang p = .ok p := by
  simp only [eqTypes, List.forall_mem_cons] at h
  simp [degreeToYang, popTargets_absent, h]

theorem designBandToYang_absent {p : Dict} (h : p.get? "per_degree_design_bands" = none) :
    designBandToYang p = .ok p := by
  simp [designBandToYang, h]

theorem lossCoefToYang_absent {p : Dict} (h : ∀ lc, p.get? "loss_coef" ≠ some (.obj lc)) :
    lossCoefToYang p = .ok p := by
  unfold lossCoefToYang
  split
  next lc hget => exact absurd hget (h lc)
  next => rfl

theorem rangeToYang_present {lk dk : String} {e : Dict} (h : (e.get? dk).isSome) : rangeToYang lk dk e = .ok e := by
  simp [rangeToYang, h]

theorem designBandToLegacy_absent {p : Dict} (h : p.get? "per_degree_design_bands_targets" = none) :
    designBandToLegacy p = .ok p := by
  simp [designBandToLegacy, h]

theorem lossCoefToLegacy_absent {p : Dict} (h : p.get? "loss_coef_per_frequency" = none) :
    lossCoefToLegacy p = .ok p := by
  simp [lossCoefToLegacy, h]

theorem rangeToLegacy_absent {lk dk : String} {e : Dict} (h : e.get? dk = none) : rangeToLegacy lk dk e = .ok e := by
  simp [rangeToLegacy, h]

theorem popTargets_out {k : String} {a b : Dict} {t : List J} (h : popTargets k a = .ok (b, t)) (k' : String) :
    b.get? k' = if k' = k then none else a.get? k' := by
  unfold popTargets at h
  split at h
  · -- no entry under `k`: nothing is popped
    cases h
    split <;> simp [*]
  · split at h
    · -- an empty entry is dropped
      cases h
      simp
    · split at h
      · -- a dict of targets: popped
        cases h
        simp
      · cases h

theorem degreeToYang_out {p y : Dict} (h : degreeToYang p = .ok y) : ∀ k ∈ eqTypes, y.get? k = none := by
  simp only [degreeToYang, Except.bind_eq_ok] at h
  obtain ⟨⟨p1, t1⟩, e1, ⟨p2, t2⟩, e2, ⟨p3, t3⟩, e3, h⟩ := h
  split at h <;> cases h <;> simp [eqTypes, popTargets_out e1, popTargets_out e2, popTargets_out e3]

theorem designBandToYang_out {p y : Dict} (h : designBandToYang p = .ok y) :
    y.get? "per_degree_design_bands" = none := by
  unfold designBandToYang at h
  split at h
  · cases h; assumption
  · split at h
    · cases h
      simp
    · split at h
      · -- a dict of bands: moved to the targets
        cases h
        simp
      · cases h

theorem lossCoefToYang_out {p y : Dict} (h : lossCoefToYang p = .ok y) : ∀ lc, y.get? "loss_coef" ≠ some (.obj lc) := by
  unfold lossCoefToYang at h
  split at h
  · simp only [Except.ite_eq_ok, Except.bind_eq_ok, Except.pure_eq_ok_iff] at h
    obtain ⟨_, rfl⟩ | ⟨_, vl, _, h⟩ := h
    · simp
    · split at h
      · -- the frequencies are a list: the entry is replaced by the per-frequency list
        cases h
        simp
      · cases h
  · cases h; assumption

theorem rangeToYang_out {lk dk : String} (hne : lk ≠ dk) {e y : Dict} (h : rangeToYang lk dk e = .ok y) :
    (y.get? dk).isSome := by
  unfold rangeToYang at h
  split at h
  next hd =>
    cases h
    simpa using hd
  · split at h
    · cases h
    · simp only [Except.bind_eq_ok, Except.pure_eq_ok_iff] at h
      obtain ⟨d, _, rfl⟩ := h
      simp [Ne.symm hne]

theorem designBandToLegacy_out {p y : Dict} (h : designBandToLegacy p = .ok y) :
    y.get? "per_degree_design_bands_targets" = none := by
  unfold designBandToLegacy at h
  split at h
  · cases h; assumption
  · simp only [Except.ite_eq_ok, Except.bind_eq_ok, Except.pure_eq_ok_iff] at h
    obtain ⟨_, rfl⟩ | ⟨_, l, _, bands, _, ⟨_, rfl⟩ | ⟨_, rfl⟩⟩ := h <;> simp

theorem lossCoefToLegacy_out {p y : Dict} (h : lossCoefToLegacy p = .ok y) :
    y.get? "loss_coef_per_frequency" = none := by
  unfold lossCoefToLegacy at h
  split at h
  · cases h; assumption
  · simp only [Except.ite_eq_ok, Except.bind_eq_ok, Except.pure_eq_ok_iff] at h
    obtain ⟨_, rfl⟩ | ⟨_, items, _, fr, _, va, _, rfl⟩ := h <;> simp

theorem rangeToLegacy_out {lk dk : String} {e y : Dict} (h : rangeToLegacy lk dk e = .ok y) : y.get? dk = none := by
  unfold rangeToLegacy at h
  split at h
  · cases h; assumption
  · simp only [Except.bind_eq_ok, Except.pure_eq_ok_iff] at h
    obtain ⟨r, _, a, _, b, _, c, _, rfl⟩ := h
    simp

/-! ### `legacy_to_yang` is the identity on the YANG normal form

The `…_id` lemmas: one named after a predicate of the normal form says that on what satisfies it the converters
that look at it change nothing; one named after a function says that it is the identity under the stated hypothesis.
The predicates on list entries are false off dicts, so their lemmas also say that the entry is a dict. -/

theorem paramsYangNormal_id (p : Dict) (h : paramsYangNormal p = true) :
    degreeToYang p = .ok p ∧ designBandToYang p = .ok p ∧ lossCoefToYang p = .ok p := by
  simp only [paramsYangNormal, Bool.and_eq_true, Dict.not_has_iff] at h
  obtain ⟨⟨⟨⟨h1, h2⟩, h3⟩, h4⟩, h5⟩ := h
  exact ⟨degreeToYang_absent (by simp [eqTypes, h1, h2, h3]), designBandToYang_absent h4,
    lossCoefToYang_absent fun lc hlc => by simp [hlc] at h5⟩

theorem fixNullName_id {l : Dict} {name : String} (h : l.get? name ≠ some .null) : fixNullName l name = l := by
  unfold fixNullName
  split
  next hget => exact absurd hget h
  next => rfl

theorem fixRegionCity_id (e : Dict) (h : metaYangNormal e = true) : fixRegionCity e = .ok e := by
  unfold fixRegionCity
  obtain hm | ⟨m, hm, h⟩ := optObj_of_match h
  · simp [hm]
  obtain hl | ⟨loc, hl, h⟩ := optObj_of_match h
  · simp [hm, hl, pyIn]
  simp only [Bool.and_eq_true, bne_iff_ne, ne_eq] at h
  simp [hm, hl, pyIn, Dict.get_eq_ok.2 hl, fixNullName_id h.1, fixNullName_id h.2, Dict.set_same hl, Dict.set_same hm]

theorem elemYangNormal_id (ej : J) (h : elemYangNormal ej = true) :
    ∃ e : Dict, ej = .obj e ∧ onRoadmParams degreeToYang e = .ok e ∧ onRoadmParams designBandToYang e = .ok e ∧
      withParams e lossCoefToYang = .ok e ∧ fixRegionCity e = .ok e := by
  cases ej with
  | obj e =>
    simp only [elemYangNormal, Bool.and_eq_true] at h
    obtain ⟨⟨ht, hm⟩, hp⟩ := h
    have hp := optObj_of_match hp
    have ids := paramsYangNormal_id
    exact ⟨e, rfl, onRoadmParams_id ht hp fun p hn => (ids p hn).1, onRoadmParams_id ht hp fun p hn => (ids p hn).2.1,
      withParams_id hp fun p hn => (ids p hn).2.2, fixRegionCity_id e hm⟩
  | _ => cases h

theorem topoYangNormal_id (inner : Dict) (h : topoYangNormal inner = true) :
    convertDegree inner = .ok inner ∧ convertDesignBand inner = .ok inner ∧
    convertLossCoefList inner = .ok inner ∧ removeNullRegionCity inner = .ok inner := by
  obtain ⟨l, hget, hall⟩ := someArr_of_match h
  have el := fun ej hej => elemYangNormal_id ej (hall ej hej)
  exact ⟨forEachIn_id hget el fun _ h => h.1, forEachIn_id hget el fun _ h => h.2.1,
    forEachIn_id hget el fun _ h => h.2.2.1, forEachIn_id hget el fun _ h => h.2.2.2⟩

theorem ramanFiberYangNormal_id (fj : J) (h : ramanFiberYangNormal fj = true) :
    ∃ fe : Dict, fj = .obj fe ∧ ramanEffEntryToYang fe = .ok fe := by
  cases fj with
  | obj fe =>
    simp only [ramanFiberYangNormal, Bool.and_eq_true, Dict.has_eq_isSome] at h
    obtain ⟨h1, h2⟩ := h
    have ha : ramanEffAcceptCoef fe = .ok fe := by
      unfold ramanEffAcceptCoef
      split
      · simp only [*, Bool.or_eq_true, Bool.not_eq_true'] at h1
        rcases h1 with h1 | h1 <;> simp [h1]
      · rfl
    have hb : ramanEffToYang fe = .ok fe := by
      unfold ramanEffToYang
      split
      · rfl
      · simp only [*, Bool.and_eq_true, Bool.not_eq_true'] at h2
        simp [h2.1, h2.2]
    exact ⟨fe, rfl, by simp [ramanEffEntryToYang, ha, hb]⟩
  | _ => cases h

theorem hasKeyEntry_id {lk dk : String} (ej : J) (h : hasKeyEntry dk ej = true) :
    ∃ e : Dict, ej = .obj e ∧ rangeToYang lk dk e = .ok e := by
  cases ej with
  | obj e => exact ⟨e, rfl, rangeToYang_present (by simpa [hasKeyEntry] using h)⟩
  | _ => cases h

theorem edfaYangNormal_id (ej : J) (h : edfaYangNormal ej = true) :
    ∃ e : Dict, ej = .obj e ∧ nfCoefToYang "nf_coef" e = .ok e := by
  cases ej with
  | obj e =>
    refine ⟨e, rfl, ?_⟩
    simp only [edfaYangNormal] at h
    unfold nfCoefToYang
    split at h
    · simp [*]
    · simp [*, idx]
    · cases h
  | _ => cases h

theorem addDefaultFirst_id : ∀ (l : List J), (∀ ej ∈ l, hasKeyEntry "type_variety" ej = true) →
    addDefaultFirst l = .ok l
  | [], _ => rfl
  | x :: xs, h => by
    obtain ⟨hx, hxs⟩ := List.forall_mem_cons.1 h
    cases x with
    | obj d =>
      simp only [hasKeyEntry, Dict.has_eq_isSome] at hx
      simp [addDefaultFirst, hx, addDefaultFirst_id xs hxs]
    | _ => cases hx

theorem addMissingDefaultTypeVariety_id (inner : Dict) (h : listAll inner "Roadm" (hasKeyEntry "type_variety") = true) :
    addMissingDefaultTypeVariety inner = .ok inner := by
  unfold addMissingDefaultTypeVariety
  obtain hn | ⟨l, hget, hall⟩ := optArr_of_listAll h
  · simp [hn]
  · simp [hget, addDefaultFirst_id l hall, Dict.set_same hget]

theorem eqptYangNormal_id (inner : Dict) (h : eqptYangNormal inner = true) :
    convertRamanEfficiency inner = .ok inner ∧ convertDeltaPowerRange inner = .ok inner ∧
    convertNfCoef inner = .ok inner ∧ addMissingDefaultTypeVariety inner = .ok inner := by
  simp only [eqptYangNormal, Bool.and_eq_true] at h
  obtain ⟨⟨⟨⟨h1, h2⟩, h3⟩, h4⟩, h5⟩ := h
  refine ⟨forEachIfPresent_id h1 ramanFiberYangNormal_id, ?_, forEachIfPresent_id h4 edfaYangNormal_id,
    addMissingDefaultTypeVariety_id inner h5⟩
  simp [convertDeltaPowerRange, forEachIfPresent_id h2 hasKeyEntry_id,
    forEachIfPresent_id h3 hasKeyEntry_id]

theorem reorderKey_id (key : String) (ej : J) (h : keyFirst key ej = true) :
    ∃ e : Dict, ej = .obj e ∧ reorderKey key e = e := by
  cases ej with
  | obj e =>
    refine ⟨e, rfl, ?_⟩
    match e with
    | [] => simp [reorderKey]
    | (k, v) :: rest =>
      simp only [keyFirst] at h
      split at h
      · obtain rfl : k = key := by simp_all
        simp only [Bool.and_eq_true, bne_iff_ne, ne_eq, Dict.not_has_iff] at h
        -- the key is the first member, its value is not null and it occurs nowhere in `rest`: erasing it leaves `rest`,
        -- and it is put back in front.  (`reorderKey` matches `some .null` before `some v`: hence the cases of `v`.)
        cases v <;> simp_all [reorderKey, Dict.erase, Dict.erase_of_get?_none h.2]
      · have : Dict.get? ((k, v) :: rest) key = none := by simpa using h
        simp [reorderKey, this]
  | _ => cases h

theorem reorderKeys_id (key : String) (l : List J) (h : ∀ ej ∈ l, keyFirst key ej = true) :
    reorderKeys key (.arr l) = .ok (.arr l) := by
  have hm : l.mapM (fun e => do return J.obj (reorderKey key (← asObj e))) = (.ok l : PyR (List J)) :=
    Except.mapM_id _ l fun ej hej => by
      obtain ⟨e, rfl, he⟩ := reorderKey_id key ej (h ej hej)
      simp [he]
  -- as in `forEachIn_ok`
  simp only [Except.pure_eq_ok] at hm
  simp [reorderKeys, hm]

theorem dropIfNone_id {d : Dict} {k : String} (h : d.get? k ≠ some .null) : dropIfNone d k = d := by
  unfold dropIfNone
  split
  next => rfl
  next hget => exact absurd hget h
  next => rfl

theorem slotLoop_id : ∀ (fuel i : Nat) (l : List J), l.all slotYangNormal = true → slotLoop fuel i l = .ok l
  | 0, _, _, _ => rfl
  | fuel + 1, i, l, h => by
    unfold slotLoop
    cases hi : l[i]? with
    | none => rfl
    | some sj =>
      have hs := List.all_eq_true.1 h sj (List.mem_of_getElem? hi)
      cases sj with
      | obj s =>
        simp only [slotYangNormal, Bool.and_eq_true, bne_iff_ne, ne_eq, Bool.not_eq_true'] at hs
        obtain ⟨⟨hne, hN⟩, hM⟩ := hs
        have hset : l.set i (J.obj s) = l := by
          obtain ⟨hi', hs⟩ := List.getElem?_eq_some_iff.1 hi
          rw [← hs, List.set_getElem_self]
        simp only [asObj_obj, Except.ok_bind, dropIfNone_id hN, dropIfNone_id hM, hset, hne,
          Bool.false_eq_true, if_false]
        exact slotLoop_id fuel (i + 1) l h
      | _ => cases hs

theorem cleanTeBandwidth_id (te : Dict) (h : teYangNormal te = true) : cleanTeBandwidth te = .ok te := by
  simp only [teYangNormal, Bool.and_eq_true, bne_iff_ne, ne_eq] at h
  obtain ⟨⟨⟨h1, h2⟩, h3⟩, h4⟩ := h
  have d2 := dropIfNone_id h2
  have d3 := dropIfNone_id h3
  have d4 := dropIfNone_id h4
  unfold cleanTeBandwidth
  split at h1
  next => simp [*]
  next x xs hget => simp [hget, J.truthy, slotLoop_id _ 0 (x :: xs) h1, Dict.set_same hget, d2, d3, d4]
  next => cases h1

theorem reqYangNormal_id (rj : J) (h : reqYangNormal rj = true) :
    ∃ req : Dict, rj = .obj req ∧ reorderRouteReq req = .ok req ∧ cleanReq req = .ok req := by
  cases rj with
  | obj req =>
    simp only [reqYangNormal, Bool.and_eq_true] at h
    obtain ⟨h1, h2⟩ := h
    refine ⟨req, rfl, ?_, ?_⟩
    · unfold reorderRouteReq
      obtain he | ⟨e, he, h1⟩ := optObj_of_match h1
      · simp [he]
      obtain ⟨l, hl, h1⟩ := someArr_of_match h1
      simp [he, Dict.get_eq_ok.2 hl, reorderKeys_id "index" l h1, Dict.set_same hl, Dict.set_same he]
    · obtain ⟨pc, hpc, h2⟩ := someObj_of_match h2
      obtain ⟨te, hte, h2⟩ := someObj_of_match h2
      simp [cleanReq, Dict.get_eq_ok.2 hpc, Dict.get_eq_ok.2 hte, cleanTeBandwidth_id te h2, Dict.set_same hte,
        Dict.set_same hpc]
  | _ => cases h

theorem servYangNormal_id (inner : Dict) (h : servYangNormal inner = true) :
    reorderRouteObjects inner = .ok inner ∧ removeUnionThatFail inner = .ok inner := by
  obtain ⟨l, hget, hall⟩ := someArr_of_match h
  have el := fun rj hrj => reqYangNormal_id rj (hall rj hrj)
  exact ⟨forEachIn_id hget el fun _ h => h.1, forEachIn_id hget el fun _ h => h.2⟩

/-- the structural part of `legacy_to_yang` is the identity on a YANG-normal document: the document has
one member, so the dispatch is decided by comparing that key with the literals -/
theorem toYangStruct_fixpoint (y : J) (h : yangNormal y = true) : ∃ d, y = .obj d ∧ toYangStruct d = .ok d := by
  unfold yangNormal at h
  split at h
  next k v =>
    refine ⟨_, rfl, ?_⟩
    split at h
    · obtain rfl : k = TOPO := by simp_all
      obtain ⟨inner, rfl, h⟩ := obj_of_match h
      obtain ⟨a, b, c, d⟩ := topoYangNormal_id inner h
      simp [toYangStruct, toYangStructWith, TOPO, onKey_single, a, b, c, d]
    split at h
    · obtain rfl : k = EQPT := by simp_all
      obtain ⟨inner, rfl, h⟩ := obj_of_match h
      obtain ⟨a, b, c, d⟩ := eqptYangNormal_id inner h
      simp [toYangStruct, toYangStructWith, hasAny, eqptTypes, TOPO, EQPT, onKey_single, a, b, c, d]
    split at h
    · obtain rfl : k = SERV := by simp_all
      obtain ⟨inner, rfl, h⟩ := obj_of_match h
      obtain ⟨a, b⟩ := servYangNormal_id inner h
      simp [toYangStruct, toYangStructWith, hasAny, eqptTypes, TOPO, EQPT, SERV, onKey_single, a, b]
    · obtain rfl | rfl : k = SPEC ∨ k = SIMP := by simpa using h
      all_goals simp [toYangStruct, toYangStructWith, hasAny, eqptTypes, edfaConfigKeys, simParamsKeys, TOPO, EQPT,
        SERV, EDFACFG, SPEC, SIMP, RESP, API]
  next => cases h

/-! ### `yang_to_legacy` is the identity on the legacy normal form -/

theorem backStable_id (j : J) (h : backStable j = true) : convertBack none j = .ok j := by
  unfold backStable at h
  split at h
  · simp_all
  · cases h

theorem paramsLegacyNormal_id (p : Dict) (h : paramsLegacyNormal p = true) :
    degreeToLegacy p = .ok p ∧ designBandToLegacy p = .ok p ∧ lossCoefToLegacy p = .ok p ∧
    ramanCoefToLegacy p = .ok p := by
  simp only [paramsLegacyNormal, Bool.and_eq_true, Dict.not_has_iff] at h
  obtain ⟨⟨⟨h1, h2⟩, h3⟩, h4⟩ := h
  refine ⟨by simp [degreeToLegacy, h1], designBandToLegacy_absent h2, lossCoefToLegacy_absent h3, ?_⟩
  unfold ramanCoefToLegacy
  split at h4 <;> simp_all

theorem elemLegacyNormal_id (ej : J) (h : elemLegacyNormal ej = true) :
    ∃ e : Dict, ej = .obj e ∧ onRoadmParams degreeToLegacy e = .ok e ∧ onRoadmParams designBandToLegacy e = .ok e ∧
      withParams e lossCoefToLegacy = .ok e ∧ withParams e ramanCoefToLegacy = .ok e := by
  cases ej with
  | obj e =>
    simp only [elemLegacyNormal, Bool.and_eq_true] at h
    have hp := optObj_of_match h.2
    have ids := paramsLegacyNormal_id
    exact ⟨e, rfl, onRoadmParams_id h.1 hp fun p hn => (ids p hn).1,
      onRoadmParams_id h.1 hp fun p hn => (ids p hn).2.1, withParams_id hp fun p hn => (ids p hn).2.2.1,
      withParams_id hp fun p hn => (ids p hn).2.2.2⟩
  | _ => cases h

theorem topoLegacyNormal_id (d : Dict) (h : topoLegacyNormal d = true) :
    convertBackDegree d = .ok d ∧ convertBackDesignBand d = .ok d ∧ convertBackLossCoefList d = .ok d ∧
    convertBackRamanCoef d = .ok d := by
  obtain ⟨l, hget, hall⟩ := someArr_of_match h
  have el := fun ej hej => elemLegacyNormal_id ej (hall ej hej)
  exact ⟨forEachIn_id hget el fun _ h => h.1, forEachIn_id hget el fun _ h => h.2.1,
    forEachIn_id hget el fun _ h => h.2.2.1, forEachIn_id hget el fun _ h => h.2.2.2⟩

theorem lacksKeyEntry_id {lk dk : String} (ej : J) (h : lacksKeyEntry dk ej = true) :
    ∃ e : Dict, ej = .obj e ∧ rangeToLegacy lk dk e = .ok e := by
  cases ej with
  | obj e => exact ⟨e, rfl, rangeToLegacy_absent (by simpa [lacksKeyEntry] using h)⟩
  | _ => cases h

theorem ramanFiberLegacyNormal_id (fj : J) (h : ramanFiberLegacyNormal fj = true) :
    ∃ fe : Dict, fj = .obj fe ∧ ramanEffToLegacy fe = .ok fe := by
  cases fj with
  | obj fe =>
    refine ⟨fe, rfl, ?_⟩
    unfold ramanEffToLegacy
    split
    · simp [ramanFiberLegacyNormal, *] at h
    · rfl
  | _ => cases h

theorem edfaLegacyNormal_id (ej : J) (h : edfaLegacyNormal ej = true) :
    ∃ e : Dict, ej = .obj e ∧ nfCoefToLegacy "nf_coef" e = .ok e := by
  cases ej with
  | obj e =>
    refine ⟨e, rfl, ?_⟩
    simp only [edfaLegacyNormal] at h
    unfold nfCoefToLegacy
    split at h
    · simp [*]
    · -- only the guard is evaluated: the default simp set would work through the sorting code behind it
      simp only [*, idx, List.getElem?_cons_zero, Except.pure_eq_ok, Except.ok_bind, if_true]
    · cases h
  | _ => cases h

theorem eqptLegacyNormal_id (d : Dict) (h : eqptLegacyNormal d = true) :
    convertBackDeltaPowerRange d = .ok d ∧ convertBackRamanEfficiency d = .ok d ∧ convertBackNfCoef d = .ok d := by
  simp only [eqptLegacyNormal, Bool.and_eq_true] at h
  obtain ⟨⟨⟨h1, h2⟩, h3⟩, h4⟩ := h
  refine ⟨?_, forEachIfPresent_id h3 ramanFiberLegacyNormal_id, forEachIfPresent_id h4 edfaLegacyNormal_id⟩
  simp [convertBackDeltaPowerRange, forEachIfPresent_id h1 lacksKeyEntry_id,
    forEachIfPresent_id h2 lacksKeyEntry_id]

/-- the structural part of `yang_to_legacy` is the identity on a legacy-normal document: which converters run is
decided by the members the document has -/
theorem toLegacyStruct_fixpoint (l : J) (h : legacyNormal l = true) :
    ∃ d, l = .obj d ∧ toLegacyStruct convertBackDeltaPowerRange d = .ok l := by
  unfold legacyNormal at h
  split at h
  next d =>
    refine ⟨d, rfl, ?_⟩
    -- the `split`s leave the outcome of each test `d.has ..` in the context: `has` is kept as it is
    split at h
    · simp only [Bool.and_eq_true, nsFree, beq_iff_eq] at h
      obtain ⟨a, b, c, e⟩ := topoLegacyNormal_id d h.1
      simp [-Dict.has_eq_isSome, toLegacyStruct, topoToLegacy, *]
    split at h
    · cases h
    split at h
    · simp only [Bool.and_eq_true, nsFree, beq_iff_eq] at h
      obtain ⟨a, b, c⟩ := eqptLegacyNormal_id d h.1
      simp [-Dict.has_eq_isSome, toLegacyStruct, eqptToLegacy, *]
    · simp only [Bool.and_eq_true, Bool.not_eq_true'] at h
      simp [-Dict.has_eq_isSome, toLegacyStruct, *]
  next => cases h

/-! ### round trips lift through the combinators -/

-- by induction on the list: `Except.mapM_eq_ok` (Lemmas/MapM.lean), which would give this in two uses, needs Mathlib's
-- `Forall₂`, and this file is core Lean only
theorem mapM_roundtrip (f g : Dict → PyR Dict) (R : Dict → Dict → Prop) :
    ∀ l : List J, (∀ ej ∈ l, ∃ e y q, ej = J.obj e ∧ f e = .ok y ∧ g y = .ok q ∧ R e q) →
      ∃ l1 l2, l.mapM (fun e => do return J.obj (← f (← asObj e))) = .ok l1 ∧
        l1.mapM (fun e => do return J.obj (← g (← asObj e))) = .ok l2 ∧ l2.length = l.length ∧
        ∀ (i : Nat) e, l[i]? = some (J.obj e) → ∃ e', l2[i]? = some (J.obj e') ∧ R e e'
  | [], _ => ⟨[], [], rfl, rfl, rfl, by simp⟩
  | a :: as, h => by
    obtain ⟨⟨e, y, q, rfl, hy, hq, hR⟩, has⟩ := List.forall_mem_cons.1 h
    obtain ⟨l1, l2, h1, h2, hlen, hpt⟩ := mapM_roundtrip f g R as has
    refine ⟨.obj y :: l1, .obj q :: l2, ?_, ?_, by simp [hlen], ?_⟩
    · rw [List.mapM_cons, h1]
      simp [hy]
    · rw [List.mapM_cons, h2]
      simp [hq]
    rintro (_ | i) e' hi
    · cases hi
      exact ⟨q, rfl, hR⟩
    · exact hpt i e' hi

/-- an entry-level round trip lifts to the list under `key`: if every entry `e` of `d[key]` makes the round trip
`f` then `g` with `R e e'`, the document makes the round trip with the same list length, every entry related to its
image at the same position, and every other member untouched. -/
theorem forEachIn_roundtrip (d : Dict) (key : String) (f g : Dict → PyR Dict) (l : List J) (R : Dict → Dict → Prop)
    (hget : d.get? key = some (.arr l))
    (h : ∀ ej ∈ l, ∃ e y q, ej = J.obj e ∧ f e = .ok y ∧ g y = .ok q ∧ R e q) :
    ∃ y q l', forEachIn d key f = .ok y ∧ forEachIn y key g = .ok q ∧
      q.get? key = some (.arr l') ∧ l'.length = l.length ∧ (∀ k, k ≠ key → q.get? k = d.get? k) ∧
      ∀ (i : Nat) e, l[i]? = some (J.obj e) → ∃ e', l'[i]? = some (J.obj e') ∧ R e e' := by
  obtain ⟨l1, l2, h1, h2, hlen, hpt⟩ := mapM_roundtrip f g R l h
  exact ⟨_, _, l2, forEachIn_ok hget h1, forEachIn_ok (by simp) h2, by simp, hlen, fun k hk => by simp [hk], hpt⟩

/-- relation between a topology element and its image: same members, and the `params` member holds a
dict related by `Rp` -/
def ElemRel (Rp : Dict → Dict → Prop) (e q : Dict) : Prop :=
  (∀ k, k ≠ "params" → q.get? k = e.get? k) ∧
  (e.get? "params" = none → q.get? "params" = none) ∧
  (∀ p : Dict, e.get? "params" = some (.obj p) → ∃ p' : Dict, q.get? "params" = some (.obj p') ∧ Rp p p')

/-- `params` replaced twice: the other members stay, `params` holds the image -/
theorem elemRel_set {Rp : Dict → Dict → Prop} {e p y q : Dict} (hp : e.get? "params" = some (.obj p)) (hR : Rp p q) :
    ElemRel Rp e ((e.set "params" (.obj y)).set "params" (.obj q)) :=
  ⟨fun k hk => by simp [hk], fun hn => by simp [hn] at hp,
    fun p0 hp0 => ⟨q, by simp, by cases hp.symm.trans hp0; exact hR⟩⟩

/-- an element that stays as it is: only its own `params`, if any, must be related to itself -/
theorem elemRel_self {Rp : Dict → Dict → Prop} {e : Dict} (h : ∀ p, e.get? "params" = some (.obj p) → Rp p p) :
    ElemRel Rp e e :=
  ⟨fun _ _ => rfl, fun h => h, fun p hp => ⟨p, hp, h p hp⟩⟩

/-- lifting a params-level round trip through `withParams` (converters that look at every params) -/
theorem withParams_roundtrip (f g : Dict → PyR Dict) (Rp : Dict → Dict → Prop) (e : Dict)
    (hp : e.get? "params" = none ∨ ∃ p : Dict, e.get? "params" = some (.obj p) ∧ ∃ y q, f p = .ok y ∧ g y = .ok q ∧ Rp p q) :
    ∃ y q, withParams e f = .ok y ∧ withParams y g = .ok q ∧ ElemRel Rp e q := by
  obtain hn | ⟨p, hp, y, q, hf, hg, hR⟩ := hp
  · exact ⟨e, e, withParams_none hn, withParams_none hn, elemRel_self fun p hp => by simp [hn] at hp⟩
  · exact ⟨_, _, withParams_obj hp hf, withParams_obj (by simp) hg, elemRel_set hp hR⟩

/-- lifting a params-level round trip through `onRoadmParams` (converters that look at ROADM params) -/
theorem onRoadmParams_roundtrip (f g : Dict → PyR Dict) (Rp : Dict → Dict → Prop) (hrefl : ∀ p, Rp p p) (e : Dict)
    (ht : e.has "type" = true)
    (hp : e.get? "params" = none ∨ ∃ p : Dict, e.get? "params" = some (.obj p) ∧
      (e.get? "type" = some (.str "Roadm") → ∃ y q, f p = .ok y ∧ g y = .ok q ∧ Rp p q)) :
    ∃ y q, onRoadmParams f e = .ok y ∧ onRoadmParams g y = .ok q ∧ ElemRel Rp e q := by
  obtain ⟨t, htt⟩ := Option.isSome_iff_exists.1 (by simpa using ht)
  by_cases hc : t = .str "Roadm"
  · obtain ⟨y, q, hf, hg, hR⟩ := withParams_roundtrip f g Rp e
      (hp.imp_right fun ⟨p, hp, h⟩ => ⟨p, hp, h (by rw [htt, hc])⟩)
    -- the image is still a ROADM, so the way back goes through `withParams` too
    have hty : y.get? "type" = some t := by rw [withParams_get?_of_ne hf (by simp), htt]
    exact ⟨y, q, by rw [onRoadmParams_eq htt, if_pos hc, hf], by rw [onRoadmParams_eq hty, if_pos hc, hg], hR⟩
  · exact ⟨e, e, by rw [onRoadmParams_eq htt, if_neg hc], by rw [onRoadmParams_eq htt, if_neg hc],
      elemRel_self fun p _ => hrefl p⟩

end Gnpy.Yang
