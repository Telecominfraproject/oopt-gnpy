import GnpyModel
import GnpyProofs.RealInst
import GnpyProofs.Lemmas.ChainList
/-
Helper lemmas over ℝ for the chain model (Model: GnpyModel/Chain.lean): the counting floor division and sums;
`add_fiber_padding` on one run and on a line (`padRun` keeps the kinds of the elements, hence the decomposition of the
line into runs); `_span_params` (the lumped losses of a split fibre go each to exactly one span).
-/
namespace Gnpy

theorem sum_first_only {a : ℝ} {n : ℕ} (hn : 1 ≤ n) :
    ((List.range n).map (fun k => if k = 0 then a else (0:ℝ))).sum = a := by
  obtain ⟨m, rfl⟩ := Nat.exists_eq_add_of_le' hn
  simp [List.range_succ_eq_map, Function.comp_def]

end Gnpy

namespace Gnpy.Chain

theorem sumLeft_eq_sum (l : List ℝ) : sumLeft l = l.sum := by
  rw [sumLeft, List.sum_eq_foldl, Nat.cast_zero]

/-! ### calculate_new_length -/

theorem floorDivAux_spec (a b : ℝ) (f k : Nat) (h1 : (k:ℝ) * b ≤ a) (h2 : a < ((k + f + 1 : Nat) : ℝ) * b) :
    ((floorDivAux a b f k : Nat) : ℝ) * b ≤ a ∧ a < ((floorDivAux a b f k + 1 : Nat) : ℝ) * b := by
  induction f generalizing k with
  | zero => exact ⟨h1, h2⟩
  | succ f ih =>
    rw [floorDivAux]
    split
    · next h => exact ih (k + 1) h (by rwa [Nat.add_right_comm k 1])
    · next h => exact ⟨h1, lt_of_not_ge h⟩

/-- the counting loop is `int(a // b)`: `k·b ≤ a < (k+1)·b` -/
theorem floorDiv_spec (fuel : Nat) (a b : ℝ) (ha : 0 ≤ a) (hf : a < ((fuel + 1 : Nat) : ℝ) * b) :
    ((floorDiv fuel a b : Nat) : ℝ) * b ≤ a ∧ a < ((floorDiv fuel a b + 1 : Nat) : ℝ) * b :=
  floorDivAux_spec a b fuel 0 (by rwa [Nat.cast_zero, zero_mul]) (by rwa [Nat.zero_add])

/-- `calculate_new_length` once the span count candidate `n2 = ⌊L / target⌋` is known (all it uses of `n2`: on a fibre
that is split, `n2 ≥ 1` and `L < (n2 + 1)·target`): at least one span, the spans add up to `L`, none is longer than `hi` -/
theorem calcWith_spec (L lo hi target : ℝ) (n2 : ℕ) (hlong : hi ≤ L → 1 ≤ n2 ∧ L < ((n2 + 1 : ℕ) : ℝ) * target)
    (hth : target ≤ hi) :
    1 ≤ (calcWith L lo hi target n2).2 ∧
    ((calcWith L lo hi target n2).2 : ℝ) * (calcWith L lo hi target n2).1 = L ∧
    (calcWith L lo hi target n2).1 ≤ hi := by
  unfold calcWith
  by_cases hlt : L < hi
  · rw [if_pos hlt]
    exact ⟨le_refl 1, by simp, hlt.le⟩
  obtain ⟨hn2, h2⟩ := hlong (not_lt.1 hlt)
  have hn2r : (n2 : ℝ) ≠ 0 := Nat.cast_ne_zero.2 (by omega)
  have hn1r : (0:ℝ) < ((n2 + 1 : ℕ) : ℝ) := Nat.cast_pos.2 (by omega)
  simp only [hlt, if_false]
  split_ifs with c1 c2 c3
  · exact ⟨by omega, mul_div_cancel₀ L hn1r.ne', c1.1.2⟩
  · exact ⟨hn2, mul_div_cancel₀ L hn2r, c2.1.2⟩
  · exact ⟨hn2, mul_div_cancel₀ L hn2r, c3.2⟩
  · refine ⟨by omega, mul_div_cancel₀ L hn1r.ne', ?_⟩
    rw [div_le_iff₀ hn1r, mul_comm]
    exact h2.le.trans (mul_le_mul_of_nonneg_left hth hn1r.le)

/-! ### add_fiber_padding on one run -/

/-- over ℝ the order of summation is irrelevant: a run's loss is the sum of its losses minus its Raman gains -/
theorem runLossFwd_eq (r : List (Elem ℝ)) :
    runLossFwd r = (r.map Elem.loss).sum - (r.map Elem.ramanGain).sum := by
  unfold runLossFwd
  cases r with
  | nil => simp
  | cons a t => simp only [sumLeft_eq_sum, List.map_cons, List.sum_cons]

/-- the loss as the last element of the run sees it is the forward one of the reversed run -/
theorem runLoss_eq_runLossFwd_reverse (r : List (Elem ℝ)) : runLoss r = runLossFwd r.reverse := rfl

theorem runLoss_eq (r : List (Elem ℝ)) :
    runLoss r = (r.map Elem.loss).sum - (r.map Elem.ramanGain).sum := by
  rw [runLoss_eq_runLossFwd_reverse, runLossFwd_eq, List.map_reverse, List.map_reverse, List.sum_reverse,
    List.sum_reverse]

theorem runLoss_concat (s : List (Elem ℝ)) (x : Elem ℝ) :
    runLoss (s ++ [x]) = runLoss s + (x.loss - x.ramanGain) := by
  simp only [runLoss_eq, List.map_append, List.map_cons, List.map_nil, List.sum_append, List.sum_cons, List.sum_nil]
  ring

theorem runLoss_cons (x : Elem ℝ) (s : List (Elem ℝ)) :
    runLoss (x :: s) = (x.loss - x.ramanGain) + runLoss s := by
  simp only [runLoss_eq, List.map_cons, List.sum_cons]
  ring

theorem loss_attIn (u : String) (p : FiberP ℝ) (a : ℝ) (d : Option ℝ) :
    (Elem.fiber u { p with attIn := a, dsl := d }).loss = (Elem.fiber u p).loss + (a - p.attIn) := by
  simp only [Elem.loss, FiberP.loss, FiberP.lumped]; ring

theorem loss_dsl (u : String) (p : FiberP ℝ) (d : Option ℝ) :
    (Elem.fiber u { p with dsl := d }).loss = (Elem.fiber u p).loss := by
  simp only [Elem.loss, FiberP.loss, FiberP.lumped]

theorem gain_attIn (u : String) (p : FiberP ℝ) (a : ℝ) (d : Option ℝ) :
    (Elem.fiber u { p with attIn := a, dsl := d }).ramanGain = (Elem.fiber u p).ramanGain := by
  simp only [Elem.ramanGain]

theorem gain_dsl (u : String) (p : FiberP ℝ) (d : Option ℝ) :
    (Elem.fiber u { p with dsl := d }).ramanGain = (Elem.fiber u p).ramanGain := by
  simp only [Elem.ramanGain]

section
variable (padding : ℝ) {r : List (Elem ℝ)} {u : String} {p : FiberP ℝ}

/-- caching a `design_span_loss` on the last fibre of a run does not change the run's loss -/
theorem runLoss_record_dsl (d : Option ℝ) (hl : r.getLast? = some (.fiber u p)) :
    runLoss (r.dropLast ++ [.fiber u { p with dsl := d }]) = runLoss r := by
  conv_rhs => rw [← List.dropLast_append_getLast? _ hl]
  rw [runLoss_concat, runLoss_concat, loss_dsl, gain_dsl]

/-- caching a `design_span_loss` on the last fibre of a run does not change the kinds of its elements -/
theorem kinds_record_dsl (d : Option ℝ) (hl : r.getLast? = some (.fiber u p)) :
    (r.dropLast ++ [Elem.fiber u { p with dsl := d }]).map Elem.kind = r.map Elem.kind := by
  conv_rhs => rw [← List.dropLast_append_getLast? _ hl]
  simp only [List.map_append, List.map_cons, Elem.kind]

theorem padRun_of_not_fiber_last
    (h : ¬ ∃ u p, r.getLast? = some (.fiber u p) ∧ p.raman = false) : padRun padding r = r := by
  unfold padRun
  split
  · next u p hl =>
    split_ifs with hr
    · rfl
    · exact absurd ⟨u, p, hl, by simpa using hr⟩ h
  · rfl

/-- a run that is not below the padding, or does not start with a fibre: only `design_span_loss` is recorded -/
theorem padRun_unpadded (hl : r.getLast? = some (.fiber u p)) (hnr : p.raman = false)
    (hpad : ¬ (runLoss r < padding ∧ (r.map Elem.kind).head? = some .fiber)) :
    padRun padding r = r.dropLast ++ [.fiber u { p with dsl := some (runLoss r) }] := by
  unfold padRun
  rw [hl]
  dsimp only
  rw [if_neg (by simp [hnr])]
  split_ifs with hlt
  · -- below the padding: a single fibre and a run beginning with a fibre are what `hpad` excludes
    split
    · rw [List.getLast?_singleton] at hl
      cases hl
      exact absurd ⟨hlt, rfl⟩ hpad
    · exact absurd ⟨hlt, rfl⟩ hpad
    · rfl
  · rfl

theorem padRun_eq_self (hl : r.getLast? = some (.fiber u p)) (hnr : p.raman = false)
    (hd : p.dsl = some (runLoss r)) (hpad : ¬ (runLoss r < padding ∧ (r.map Elem.kind).head? = some .fiber)) :
    padRun padding r = r := by
  rw [padRun_unpadded padding hl hnr hpad, ← hd]
  exact List.dropLast_append_getLast? _ hl

/-- **what `add_fiber_padding` does to a run `r` that ends in a (non-Raman) fibre `u`**, `r'` being the result -/
structure PadRunSpec (padding : ℝ) (r r' : List (Elem ℝ)) (u : String) : Prop where
  /-- the last fibre caches the new run loss -/
  last : ∃ p', r'.getLast? = some (.fiber u p') ∧ p'.raman = false ∧ p'.dsl = some (runLoss r')
  kinds : r'.map Elem.kind = r.map Elem.kind
  /-- that loss is `padding` if the run was below it and starts with a fibre, else unchanged -/
  loss : runLoss r' = if runLoss r < padding ∧ (r.map Elem.kind).head? = some .fiber then padding else runLoss r

theorem padRun_spec (hl : r.getLast? = some (.fiber u p)) (hnr : p.raman = false) :
    PadRunSpec padding r (padRun padding r) u := by
  have hne : ¬ (p.raman = true) := by simp [hnr]
  by_cases hpad : runLoss r < padding ∧ (r.map Elem.kind).head? = some .fiber
  · -- padded: the first fibre's `att_in` takes up what is missing, so the loss is `padding` whatever is cached
    match r, hl, hpad with
    | [a], hl, hpad =>
      cases hl
      have hL : ∀ d, runLoss [Elem.fiber u { p with attIn := p.attIn + padding - runLoss [Elem.fiber u p], dsl := d }]
          = padding := fun d => by
        rw [runLoss_cons, loss_attIn, gain_attIn, runLoss_cons]
        ring
      simp only [padRun, List.getLast?_singleton, if_neg hne, if_pos hpad.1]
      exact ⟨⟨_, rfl, hnr, by rw [hL, add_sub_cancel]⟩, rfl, (hL _).trans (if_pos hpad).symm⟩
    | .fiber v q :: b :: t, hl, hpad =>
      have hl' : (b :: t).getLast? = some (.fiber u p) := hl
      have hL : ∀ d, runLoss (.fiber v { q with attIn := q.attIn + padding - runLoss (.fiber v q :: b :: t) } ::
          ((b :: t).dropLast ++ [.fiber u { p with dsl := d }])) = padding := fun d => by
        -- `{ q with attIn := a }` is `{ q with attIn := a, dsl := q.dsl }`, the form `loss_attIn` is stated for
        rw [runLoss_cons, runLoss_record_dsl d hl', loss_attIn v q _ q.dsl, gain_attIn v q _ q.dsl, runLoss_cons]
        ring
      simp only [padRun, hl, if_neg hne, if_pos hpad.1]
      exact ⟨⟨_, List.getLast?_concat (l := _ :: _), hnr, by rw [hL, add_sub_cancel]⟩,
        congrArg (List.cons Kind.fiber) (kinds_record_dsl _ hl'), (hL _).trans (if_pos hpad).symm⟩
    | .fused v l :: b :: t, _, ⟨_, h⟩ => cases h
    | .edfa v q :: b :: t, _, ⟨_, h⟩ => cases h
  · rw [padRun_unpadded padding hl hnr hpad]
    exact ⟨⟨_, List.getLast?_concat .., hnr, by rw [runLoss_record_dsl _ hl]⟩, kinds_record_dsl _ hl,
      (runLoss_record_dsl _ hl).trans (if_neg hpad).symm⟩

end

/-- `add_fiber_padding` looks at a run only if it ends in a non-Raman fibre -/
theorem padRun_cases (padding : ℝ) (r : List (Elem ℝ)) :
    padRun padding r = r ∨ ∃ u, PadRunSpec padding r (padRun padding r) u := by
  by_cases hl : ∃ u p, r.getLast? = some (.fiber u p) ∧ p.raman = false
  · obtain ⟨u, p, hl, hnr⟩ := hl
    exact .inr ⟨u, padRun_spec padding hl hnr⟩
  · exact .inl (padRun_of_not_fiber_last padding hl)

/-- padding any run again changes nothing — whatever its shape (Fused first or last, Raman, single fibre, amplifier) -/
theorem padRun_idempotent_all (padding : ℝ) (r : List (Elem ℝ)) :
    padRun padding (padRun padding r) = padRun padding r := by
  rcases padRun_cases padding r with h | ⟨u, h⟩
  · rw [h, h]
  · obtain ⟨p', hl, hnr, hd⟩ := h.last
    refine padRun_eq_self padding hl hnr hd fun hc => ?_
    -- padded to `padding` if it could be, so there is nothing left to pad
    rw [h.kinds, h.loss] at hc
    split_ifs at hc with hC
    · exact lt_irrefl _ hc.1
    · exact hC hc

/-- `padRun` changes `att_in` / `design_span_loss` only: element kinds, in order, stay -/
theorem padRun_kinds (padding : ℝ) (r : List (Elem ℝ)) : (padRun padding r).map Elem.kind = r.map Elem.kind := by
  rcases padRun_cases padding r with h | ⟨u, h⟩
  · rw [h]
  · exact h.kinds

/-! ### add_fiber_padding on a line -/

/-- padding every run of a line and splitting the result into runs again gives the padded runs back: `padRun` keeps
the kinds, and the three conditions that characterise the decomposition into runs (`List.splitBy_flatten`) read
kinds only -/
theorem runs_addPadding (padding : ℝ) (l : List (Elem ℝ)) :
    runs (addPadding padding l) = (runs l).map (padRun padding) := by
  have hne : ∀ r, r ≠ [] → padRun padding r ≠ [] := fun r h hc =>
    h (List.map_eq_nil_iff.1 (by rw [← padRun_kinds padding r, hc]; rfl))
  refine List.splitBy_flatten (fun hmem => ?_) (fun m hm => ?_) ?_
  · obtain ⟨r, hr, he⟩ := List.mem_map.1 hmem
    exact hne r (List.ne_nil_of_mem_splitBy hr) he
  · obtain ⟨r, hr, rfl⟩ := List.mem_map.1 hm
    rw [isChain_joined_iff, padRun_kinds, ← isChain_joined_iff]
    exact List.isChain_of_mem_splitBy hr
  · rw [List.isChain_map]
    refine (List.isChain_getLast_head_splitBy joined l).imp fun {a b} ⟨ha, hb, hj⟩ => ⟨hne a ha, hne b hb, ?_⟩
    rw [joined_kind (apply_getLast_of_map_eq (padRun_kinds padding a) _ ha)
      (apply_head_of_map_eq (padRun_kinds padding b) _ hb)]
    exact hj

/-! ### _span_params: every lumped loss of a split fibre goes to exactly one span -/

/-- what a fibre loses anywhere but at its connectors: glass attenuation + input attenuation + lumped losses -/
def Elem.body : Elem ℝ → ℝ
  | .fiber _ p => p.glassLoss + p.attIn + p.lumped
  | _ => 0

/-- the loss of lumped loss `l` if it lies in span `k` of spans of `s` km, else 0 -/
noncomputable def lossInSpan (s : ℝ) (k : ℕ) (l : ℝ × ℝ) : ℝ :=
  if (k : ℝ) * s ≤ l.1 ∧ l.1 < ((k + 1 : ℕ) : ℝ) * s then l.2 else 0

theorem spanLumps_lumped (lumps : List (ℝ × ℝ)) (k : ℕ) (len : ℝ) :
    sumLeft ((spanLumps lumps k len).map (fun l => l.2)) = (lumps.map (lossInSpan (len * milli) k)).sum := by
  unfold lossInSpan
  -- `List.sum_map_ite` splits the sum: the lumps inside the span, which are `spanLumps`, and a sum of zeros
  rw [List.sum_map_ite, sumLeft_eq_sum, spanLumps, List.map_map]
  simp only [Function.comp_def, mul_assoc, Bool.decide_and, List.map_const', List.sum_replicate, smul_zero, add_zero]

/-- a position inside `[0, n·s)` lies in exactly one of the `n` spans -/
theorem lossInSpan_partition (s : ℝ) (hs : 0 ≤ s) (l : ℝ × ℝ) (n : ℕ) :
    ((List.range n).map (fun k => lossInSpan s k l)).sum = if 0 ≤ l.1 ∧ l.1 < (n : ℝ) * s then l.2 else 0 := by
  induction n with
  | zero => rw [Nat.cast_zero, zero_mul, if_neg fun h => h.1.not_gt h.2]; rfl
  | succ n ih =>
    have hsucc : ((n + 1 : ℕ) : ℝ) * s = n * s + s := by push_cast; ring
    rw [List.range_succ, List.map_append, List.sum_append, ih, List.map_singleton, List.sum_singleton, lossInSpan]
    -- the position is either below `n·s` (then not in span `n`) or not (then in none of the first `n` spans)
    by_cases h : l.1 < n * s
    · have h2 : ¬ (n * s ≤ l.1 ∧ l.1 < ((n + 1 : ℕ) : ℝ) * s) := fun hc => absurd h (not_lt.2 hc.1)
      rw [if_neg h2, add_zero]
      exact if_congr (and_congr_right fun _ =>
        ⟨fun _ => h.trans_le ((le_add_of_nonneg_right hs).trans_eq hsucc.symm), fun _ => h⟩) rfl rfl
    · have h1 : ¬ (0 ≤ l.1 ∧ l.1 < n * s) := fun hc => h hc.2
      rw [if_neg h1, zero_add]
      exact if_congr (and_congr_left fun _ => ⟨(mul_nonneg n.cast_nonneg hs).trans, fun _ => not_lt.1 h⟩) rfl rfl

theorem lossInSpan_total (lumps : List (ℝ × ℝ)) (n : ℕ) (s : ℝ) (hs : 0 ≤ s)
    (hin : ∀ l ∈ lumps, 0 ≤ l.1 ∧ l.1 < (n : ℝ) * s) :
    ((List.range n).map (fun k => (lumps.map (lossInSpan s k)).sum)).sum = (lumps.map (fun l => l.2)).sum := by
  induction lumps with
  | nil => simp
  | cons l ls ih =>
    simp only [List.map_cons, List.sum_cons]
    rw [List.sum_map_add, lossInSpan_partition s hs l n, if_pos (hin l (by simp)), ih (fun x hx => hin x (by simp [hx]))]

end Gnpy.Chain
