import Mathlib.Data.List.Sort
import GnpyModel.Spectrum
import GnpyModel.Bands
import GnpyModel.Gn
import GnpyModel.Py
import GnpyModel.Verdict
/- Python list idioms that the model writes out by hand so that the driver can run them.
   A `sorted(...)` / `argsort` written as a plain structural insertion sort is Mathlib's `List.insertionSort` for the
   relation it compares with (`*_eq` below), so that permutation, sortedness and uniqueness of the result are Mathlib's
   theorems and are not proved again per sort; what follows from `X_eq` for one model's sort stands in that model's
   lemma file, for the generic `Py.sorted` here.  (`Verdict.insertDesc` also drops duplicates and is not of this
   shape: Lemmas/VerdictDiscrete.lean.)  "First occurrence wins" de-duplication (dict keys, `remove_duplicates`)
   written as "keep the head, filter it out of the rest" (`Bands.removeDup`, `Bands.dedupBands`, `Select.dedup`) is
   characterised once (`mem_keepFirst`, `nodup_keepFirst`).  `min(l, key=…)` / `max(...)` are left folds that keep
   the first best value (`foldl_firstBest`, `foldl_firstBest_cons`); `foldl_fixed_of_mem` is for folds that leave their
   start value where it is.  Entrywise operations on two lists written as a structural recursion are `List.zipWith`
   (`eq_zipWith`); `enumerate` is `zipIdx`. -/
namespace Gnpy
open List

/-- a sort written as "insert `x` before the first `y` with `r x y`, recursively" is `insertionSort r` -/
theorem sort_eq_insertionSort {α : Type} (r : α → α → Prop) [DecidableRel r]
    (ins : α → List α → List α) (srt : List α → List α)
    (ins_nil : ∀ x, ins x [] = [x])
    (ins_cons : ∀ x y ys, ins x (y :: ys) = if r x y then x :: y :: ys else y :: ins x ys)
    (srt_nil : srt [] = []) (srt_cons : ∀ x xs, srt (x :: xs) = ins x (srt xs)) (l : List α) :
    srt l = l.insertionSort r := by
  have hins : ∀ x l, ins x l = l.orderedInsert r x := by
    intro x l
    induction l with
    | nil => exact ins_nil x
    | cons y ys ih => rw [ins_cons, orderedInsert_cons, ih]
  induction l with
  | nil => exact srt_nil
  | cons x xs ih => rw [srt_cons, ih, hins, insertionSort_cons]

/-- `List.pairwise_insertionSort` for a transitive relation that need only compare the members of the list at hand
(e.g. `<` on pairwise distinct keys) -/
theorem pairwise_insertionSort_of_pairwise {α : Type} {r : α → α → Prop} [DecidableRel r]
    (tr : ∀ a b c, r a b → r b c → r a c) :
    ∀ l : List α, l.Pairwise (fun a b => r a b ∨ r b a) → (l.insertionSort r).Pairwise r
  | [], _ => Pairwise.nil
  | a :: l, h => by
    have ih := pairwise_insertionSort_of_pairwise tr l h.of_cons
    have hc : ∀ b ∈ l.insertionSort r, r a b ∨ r b a := fun b hb =>
      rel_of_pairwise_cons h ((mem_insertionSort r).1 hb)
    rw [insertionSort_cons]
    generalize l.insertionSort r = s at ih hc
    induction s with
    | nil => exact pairwise_singleton r a
    | cons b s ihs =>
      rw [orderedInsert_cons]
      have hb := pairwise_cons.1 ih
      split
      · next hab => exact pairwise_cons.2 ⟨fun c hc' => by
          rcases mem_cons.1 hc' with rfl | hc'
          · exact hab
          · exact tr _ _ _ hab (hb.1 c hc'), ih⟩
      · next hab =>
        refine pairwise_cons.2 ⟨fun c hc' => ?_, ihs hb.2 (fun c hc' => hc c (mem_cons_of_mem _ hc'))⟩
        rcases (mem_orderedInsert r).1 hc' with rfl | hc'
        · exact (hc b mem_cons_self).resolve_left hab
        · exact hb.1 c hc'

/-- the total case, Mathlib's `List.pairwise_insertionSort` with totality and transitivity as plain hypotheses (the form
in which the model's Bool-valued comparisons supply them) -/
theorem pairwise_insertionSort_of {α : Type} {r : α → α → Prop} [DecidableRel r] (tot : ∀ a b, r a b ∨ r b a)
    (tr : ∀ a b c, r a b → r b c → r a c) (l : List α) : (l.insertionSort r).Pairwise r :=
  pairwise_insertionSort_of_pairwise tr l (pairwise_of_forall tot)

theorem Spectrum.sortK_eq {α : Type} (l : List (Int × Spectrum.Chan α)) :
    Spectrum.sortK l = l.insertionSort (fun u v => u.1 ≤ v.1) :=
  sort_eq_insertionSort _ Spectrum.insertK _ (fun _ => rfl) (fun _ _ _ => rfl) rfl (fun _ _ => rfl) l

theorem Bands.sortF_eq (l : List Bands.Ch) : Bands.sortF l = l.insertionSort (fun a b => a.f ≤ b.f) :=
  sort_eq_insertionSort _ Bands.insertF _ (fun _ => rfl) (fun _ _ _ => rfl) rfl (fun _ _ => rfl) l

theorem Bands.sortB_eq (l : List Bands.Band) : Bands.sortB l = l.insertionSort (fun a b => a.fmin ≤ b.fmin) :=
  sort_eq_insertionSort _ Bands.insertB _ (fun _ => rfl) (fun _ _ _ => rfl) rfl (fun _ _ => rfl) l

theorem Gn.sortByF_eq {α : Type} [LT α] [DecidableLT α] (l : List (α × α × α)) :
    Gn.sortByF l = l.insertionSort (fun c d => c.1 < d.1) :=
  sort_eq_insertionSort _ Gn.insertByF _ (fun _ => rfl) (fun _ _ _ => rfl) rfl (fun _ _ => rfl) l

theorem Py.sorted_eq {α : Type} (le : α → α → Bool) (l : List α) :
    Py.sorted le l = l.insertionSort (fun a b => le a b = true) :=
  sort_eq_insertionSort _ (Py.orderedInsert le) _ (fun _ => rfl) (fun _ _ _ => rfl) rfl (fun _ _ => rfl) l

theorem Py.sorted_perm {α : Type} (le : α → α → Bool) (l : List α) : (Py.sorted le l).Perm l := by
  rw [Py.sorted_eq]; exact perm_insertionSort _ l

theorem Py.sorted_pairwise {α : Type} (le : α → α → Bool) (htot : ∀ a b, le a b = true ∨ le b a = true)
    (htr : ∀ a b c, le a b = true → le b c = true → le a c = true) (l : List α) :
    (Py.sorted le l).Pairwise (fun a b => le a b = true) := by
  rw [Py.sorted_eq]; exact pairwise_insertionSort_of htot htr l

/-- `insertAsc` (and `insertKeyDesc` below) ask whether `y` stays in front of the new element, hence the negation -/
theorem Verdict.sortAsc_eq {α : Type} [LT α] [DecidableLT α] (l : List (α × α)) :
    Verdict.sortAsc l = l.insertionSort (fun e y => ¬ y.1 < e.1) :=
  sort_eq_insertionSort _ Verdict.insertAsc _ (fun _ => rfl) (fun _ _ _ => (ite_not ..).symm) rfl (fun _ _ => rfl) l

theorem Verdict.sortKeyDesc_eq (l : List Verdict.Mode) :
    Verdict.sortKeyDesc l =
      l.insertionSort (fun m y => ¬ Verdict.pairGt (Verdict.key y) (Verdict.key m) = true) :=
  sort_eq_insertionSort _ Verdict.insertKeyDesc _ (fun _ => rfl) (fun _ _ _ => (ite_not ..).symm) rfl (fun _ _ => rfl) l

section keepFirst
/- `f` is any function with the two equations of "keep the head, filter it out of the rest" -/
variable {α : Type} [BEq α] [LawfulBEq α] (f : List α → List α) (h0 : f [] = [])
  (hc : ∀ x xs, f (x :: xs) = x :: (f xs).filter (fun y => y != x))
include h0 hc

theorem mem_keepFirst (l : List α) (x : α) : x ∈ f l ↔ x ∈ l := by
  induction l with
  | nil => simp [h0]
  | cons y ys ih => by_cases hxy : x = y <;> simp [hc, List.mem_filter, ih, hxy]

theorem nodup_keepFirst (l : List α) : (f l).Nodup := by
  induction l with
  | nil => simp [h0]
  | cons y ys ih => exact hc y ys ▸ List.nodup_cons.2 ⟨by simp [List.mem_filter], ih.filter _⟩

end keepFirst

/-- Python's `min(l, key=f)` / `max(...)` as the model spells them, a left fold that keeps the first best key: `R k b`
says that the candidate key `k` replaces the best so far `b`.  Nothing beats the result, and it is the start value or
one of the keys. -/
theorem foldl_firstBest {α β : Type} (f : α → β) (R : β → β → Prop) [DecidableRel R]
    (hasym : ∀ x y, R x y → ¬ R y x) (htrans : ∀ x y z, ¬ R x y → ¬ R y z → ¬ R x z) (l : List α) (c : β) :
    ¬ R c (l.foldl (fun b x => if R (f x) b then f x else b) c) ∧
    (∀ x ∈ l, ¬ R (f x) (l.foldl (fun b x => if R (f x) b then f x else b) c)) ∧
    (l.foldl (fun b x => if R (f x) b then f x else b) c = c ∨
      ∃ x ∈ l, l.foldl (fun b x => if R (f x) b then f x else b) c = f x) := by
  induction l generalizing c with
  | nil => exact ⟨fun h => hasym _ _ h h, nofun, Or.inl rfl⟩
  | cons y ys ih =>
    rw [List.foldl_cons]
    obtain ⟨i1, i2, i3⟩ := ih (if R (f y) c then f y else c)
    by_cases hc : R (f y) c <;> simp only [hc, if_true, if_false] at i1 i2 i3 ⊢
    · exact ⟨htrans _ _ _ (hasym _ _ hc) i1, List.forall_mem_cons.2 ⟨i1, i2⟩,
        Or.inr (i3.elim (fun h => ⟨y, List.mem_cons_self, h⟩) fun ⟨x, hx, h⟩ => ⟨x, List.mem_cons_of_mem _ hx, h⟩)⟩
    · exact ⟨i1, List.forall_mem_cons.2 ⟨htrans _ _ _ hc i1, i2⟩,
        i3.imp_right fun ⟨x, hx, h⟩ => ⟨x, List.mem_cons_of_mem _ hx, h⟩⟩

/-- `foldl_firstBest` for `min(…)` / `max(…)` of a non-empty list, where the first key starts the fold: no key beats the
result, and one of them attains it -/
theorem foldl_firstBest_cons {α β : Type} (f : α → β) (R : β → β → Prop) [DecidableRel R]
    (hasym : ∀ x y, R x y → ¬ R y x) (htrans : ∀ x y z, ¬ R x y → ¬ R y z → ¬ R x z) (b0 : α) (bs : List α) :
    (∀ x ∈ b0 :: bs, ¬ R (f x) (bs.foldl (fun a x => if R (f x) a then f x else a) (f b0))) ∧
    ∃ x ∈ b0 :: bs, f x = bs.foldl (fun a x => if R (f x) a then f x else a) (f b0) := by
  obtain ⟨h1, h2, h3⟩ := foldl_firstBest f R hasym htrans bs (f b0)
  exact ⟨List.forall_mem_cons.2 ⟨h1, h2⟩,
    h3.elim (fun e => ⟨b0, List.mem_cons_self, e.symm⟩) fun ⟨x, hx, e⟩ => ⟨x, List.mem_cons_of_mem _ hx, e.symm⟩⟩

/-- `List.foldl_fixed'` when only the members of the list need leave `x` fixed -/
theorem foldl_fixed_of_mem {α β : Type} (f : β → α → β) (x : β) : ∀ l : List α, (∀ a ∈ l, f x a = x) → l.foldl f x = x
  | [], _ => rfl
  | a :: l, h => by
    rw [List.foldl_cons, h a List.mem_cons_self]
    exact foldl_fixed_of_mem f x l fun b hb => h b (List.mem_cons_of_mem _ hb)

/-- Python's `if not [x for x in l if p(x)]:` read as a proposition -/
theorem ite_isEmpty_filter {α β : Type} (p : α → Bool) (l : List α) (A B : β) :
    (if (l.filter p).isEmpty then A else B) = if ∃ x ∈ l, p x = true then B else A := by
  rw [← ite_not]
  exact if_congr (by simp [List.isEmpty_iff, List.filter_eq_nil_iff]) rfl rfl

/-- selecting by two tests that no member passes both, one selection after the other, rearranges the selection by
"either test" -/
theorem filter_or_perm {α : Type} (p q : α → Bool) (l : List α) (hex : ∀ c ∈ l, ¬ (p c = true ∧ q c = true)) :
    (l.filter p ++ l.filter q).Perm (l.filter (fun c => p c || q c)) := by
  -- of what passes either test, `filter p` is what passes the first and `filter q` what fails it
  have hp : (l.filter fun c => p c || q c).filter p = l.filter p := by
    rw [List.filter_filter]
    exact List.filter_congr fun c _ => by cases p c <;> simp
  have hq : (l.filter fun c => p c || q c).filter (fun c => !p c) = l.filter q := by
    rw [List.filter_filter]
    refine List.filter_congr fun c hc => ?_
    have := hex c hc
    revert this
    cases p c <;> cases q c <;> simp
  exact hp ▸ hq ▸ List.filter_append_perm p _

/-- a function with the three equations of `zipWith f` is `zipWith f` -/
theorem eq_zipWith {α β γ : Type*} {f : α → β → γ} {g : List α → List β → List γ} (h0 : ∀ v, g [] v = [])
    (h1 : ∀ u, g u [] = []) (hc : ∀ a u b v, g (a :: u) (b :: v) = f a b :: g u v) :
    ∀ u v, g u v = List.zipWith f u v
  | [], v => by rw [h0, List.zipWith_nil_left]
  | _ :: _, [] => by rw [h1, List.zipWith_nil_right]
  | a :: u, b :: v => by rw [hc, eq_zipWith h0 h1 hc u v, List.zipWith_cons_cons]

theorem forall_mem_zipWith {α β γ : Type*} {f : α → β → γ} {P : γ → Prop} {u : List α} {v : List β}
    (h : ∀ a ∈ u, ∀ b ∈ v, P (f a b)) : ∀ x ∈ List.zipWith f u v, P x := by
  intro x hx
  rw [← List.map_uncurry_zip_eq_zipWith, List.mem_map] at hx
  obtain ⟨⟨a, b⟩, hab, rfl⟩ := hx
  exact h a (List.of_mem_zip hab).1 b (List.of_mem_zip hab).2

theorem forall_mem_zip {α β : Type*} {P : α → Prop} {Q : β → Prop} {u : List α} {v : List β}
    (hu : ∀ a ∈ u, P a) (hv : ∀ b ∈ v, Q b) : ∀ x ∈ u.zip v, P x.1 ∧ Q x.2 :=
  fun (a, b) hx => ⟨hu a (List.of_mem_zip hx).1, hv b (List.of_mem_zip hx).2⟩

theorem map_eq_map_zipIdx {β γ : Type} (g : β → γ) (l : List β) : l.map g = l.zipIdx.map fun q => g q.1 := by
  conv_lhs => rw [← List.zipIdx_map_fst 0 l, List.map_map]
  rfl

theorem forall₂_zipIdx {β : Type} {R : β → β → Prop} : ∀ {l l' : List β}, List.Forall₂ R l l' → ∀ i,
    List.Forall₂ (fun q q' => R q.1 q'.1 ∧ q.2 = q'.2) (l.zipIdx i) (l'.zipIdx i)
  | _, _, .nil, _ => .nil
  | _, _, .cons h t, i => .cons ⟨h, rfl⟩ (forall₂_zipIdx t (i + 1))

end Gnpy
