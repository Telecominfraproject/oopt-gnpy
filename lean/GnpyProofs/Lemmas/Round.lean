import GnpyModel.Round
import GnpyProofs.Lemmas.Nearest
import Mathlib.Tactic.Linarith
/- Half-even rounding as `PrettyFloat` formatting uses it (C18; model: GnpyModel/Round.lean): error bound and
   uniqueness over ℚ for the rounded quotient `roundHalfEvenDiv n d`, and through `scaled_spec` for the digits
   `roundDigits x d` of a double. -/
namespace Gnpy.Round

theorem abs_sub_mul_div {a b p : ℚ} (hp : 0 < p) : |a - b * p| / p = |a / p - b| := by
  rw [← abs_of_pos hp, ← abs_div, abs_of_pos hp, sub_div, mul_div_cancel_right₀ _ hp.ne']

theorem roundHalfEvenDiv_cases (n d : Nat) :
    roundHalfEvenDiv n d = n / d ∨ roundHalfEvenDiv n d = n / d + 1 := by
  unfold roundHalfEvenDiv
  simp only
  split_ifs <;> simp only [true_or, or_true]

/-- twice the distance: `|2·d·R − 2·n| ≤ d` for `R = roundHalfEvenDiv n d` -/
theorem roundHalfEvenDiv_bound (n d : Nat) (hd : 0 < d) :
    2 * d * roundHalfEvenDiv n d ≤ 2 * n + d ∧ 2 * n ≤ 2 * d * roundHalfEvenDiv n d + d := by
  have h1 := Nat.div_add_mod n d
  have h2 := Nat.mod_lt n hd
  unfold roundHalfEvenDiv
  simp only
  generalize n / d = q at *
  generalize n % d = r at *
  subst h1
  -- `omega` takes the product `d * q` as an atom once `d * (q + 1)` is multiplied out
  split_ifs <;> simp only [Nat.mul_assoc, Nat.mul_add, Nat.mul_one] <;> omega

theorem roundHalfEvenDiv_err {n d : Nat} (hd : 0 < d) :
    |(roundHalfEvenDiv n d : ℚ) - (n : ℚ) / d| ≤ 1 / 2 := by
  obtain ⟨h1, h2⟩ := roundHalfEvenDiv_bound n d hd
  have hdq : (0 : ℚ) < d := Nat.cast_pos.2 hd
  have h1q : (2 : ℚ) * d * roundHalfEvenDiv n d ≤ 2 * n + d := by exact_mod_cast h1
  have h2q : (2 : ℚ) * n ≤ 2 * d * roundHalfEvenDiv n d + d := by exact_mod_cast h2
  rw [abs_sub_comm, ← abs_sub_mul_div hdq, div_le_iff₀ hdq, abs_sub_le_iff]
  exact ⟨by linarith only [h2q], by linarith only [h1q]⟩

/-- uniqueness: a natural number strictly closer than one half to n/d is the rounded quotient
    (this is what makes a second formatting pass a no-op) -/
theorem roundHalfEvenDiv_unique {n d R : Nat} (hd : 0 < d)
    (h : |(R : ℚ) - (n : ℚ) / d| < 1 / 2) : roundHalfEvenDiv n d = R :=
  Int.ofNat_inj.1 (nearestInt_unique (α := ℚ) (by simpa using roundHalfEvenDiv_err (n := n) hd) (by simpa using h))

/-- |x| as a rational: man · 2^exp -/
def Dyadic.absVal (x : Dyadic) : ℚ := (x.man : ℚ) * (2 : ℚ) ^ x.exp

theorem scaled_spec (x : Dyadic) (d : Nat) :
    0 < (scaled x d).2 ∧ ((scaled x d).1 : ℚ) / ((scaled x d).2 : ℚ) = x.absVal * (10 : ℚ) ^ d := by
  unfold scaled Dyadic.absVal
  cases x.exp with
  | ofNat k => simp
  | negSucc k =>
    -- `man · 10^d / 2^(k+1)` against `man · (2^(k+1))⁻¹ · 10^d`
    simp [zpow_negSucc, div_eq_mul_inv, mul_right_comm]

/-- the decimal printed for `x` with `d` digits is the only `R / 10^d` strictly within half a unit of
the last digit of `|x|` -/
theorem roundDigits_unique {x : Dyadic} {d R : Nat}
    (h : |x.absVal - (R : ℚ) / (10 : ℚ) ^ d| < 1 / 2 / (10 : ℚ) ^ d) : roundDigits x d = R := by
  obtain ⟨hpos, hval⟩ := scaled_spec x d
  have hp : (0 : ℚ) < (10 : ℚ) ^ d := by positivity
  rw [abs_sub_comm, ← abs_sub_mul_div hp, div_lt_div_iff_of_pos_right hp, ← hval] at h
  exact roundHalfEvenDiv_unique hpos h

end Gnpy.Round
