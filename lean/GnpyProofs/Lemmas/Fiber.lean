import GnpyModel
import GnpyProofs.Lemmas.Db
/-
Lemmas for C05 (model: GnpyModel/Fiber.lean) over ℝ: `prodL` is `List.prod`, and of losses given in dB it is `db2lin` of minus
their sum; what inserting a point into the merged grid does to the product of the losses and to the order of the positions;
the quadrature step of PMD and PDL, and the accumulation over a path in closed form.
-/
namespace Gnpy.Fiber

/-! ### products of linear losses (`prodL`) -/

theorem prodL_eq_prod (l : List ℝ) : prodL l = l.prod := by
  induction l with
  | nil => simp [prodL]
  | cons x xs ih => simp [prodL, ih]

theorem prodL_append (u v : List ℝ) : prodL (u ++ v) = prodL u * prodL v := by
  rw [prodL_eq_prod, prodL_eq_prod, prodL_eq_prod, List.prod_append]

theorem prodL_ones {l : List ℝ} (h : ∀ x ∈ l, x = 1) : prodL l = 1 := by
  rw [prodL_eq_prod]; exact List.prod_eq_one h

/-- the lumped losses of a fibre, given in dB, multiply to `db2lin` of minus their sum -/
theorem prodL_mkLumped (l : List (ℝ × ℝ)) : prodL ((mkLumped l).map (·.2)) = db2lin (-(sumL (l.map (·.2)))) := by
  induction l with
  | nil => simp [mkLumped, prodL, sumL, db2lin_zero]
  | cons x xs ih =>
    rw [mkLumped, List.map_cons, List.map_cons, prodL, ← mkLumped, ih, List.map_cons, sumL, neg_add, db2lin_add]
    rfl

/-! ### lumped losses on the z axis (`_create_lumped_losses`) -/

/-- inserting a point multiplies the running product by its loss, wherever it lands (new position or merged) -/
theorem insertPoint_prod (pt : ℝ × ℝ) (l : List (ℝ × ℝ)) :
    prodL ((insertPoint pt l).map (·.2)) = pt.2 * prodL (l.map (·.2)) := by
  induction l with
  | nil => simp [insertPoint, prodL]
  | cons q rest ih =>
    rw [insertPoint]
    split_ifs
    · rfl -- new first point
    · simp only [List.map_cons, prodL, ih] -- further down
      ring
    · simp only [List.map_cons, prodL] -- merged into `q`
      ring

theorem foldl_insert_prod (pts acc : List (ℝ × ℝ)) :
    prodL ((pts.foldl (fun a pt => insertPoint pt a) acc).map (·.2)) = prodL (pts.map (·.2)) * prodL (acc.map (·.2)) := by
  induction pts generalizing acc with
  | nil => simp [prodL]
  | cons pt rest ih => simp only [List.foldl_cons, ih, insertPoint_prod, List.map_cons, prodL]; ring

theorem mem_map_fst_insertPoint (pt : ℝ × ℝ) (l : List (ℝ × ℝ)) :
    ∀ x ∈ (insertPoint pt l).map (·.1), x = pt.1 ∨ x ∈ l.map (·.1) := by
  induction l with
  | nil => simp [insertPoint]
  | cons q rest ih =>
    rw [insertPoint]
    split_ifs
    · exact fun x hx => List.mem_cons.1 hx
    · exact List.forall_mem_cons.2 ⟨.inr List.mem_cons_self, fun x hx => (ih x hx).imp_right (List.mem_cons_of_mem _)⟩
    · exact fun x hx => .inr hx

/-- the positions are kept sorted and distinct (what `numpy.unique` returns) -/
theorem insertPoint_sorted (pt : ℝ × ℝ) (l : List (ℝ × ℝ)) (hs : (l.map (·.1)).Pairwise (· < ·)) :
    ((insertPoint pt l).map (·.1)).Pairwise (· < ·) := by
  induction l with
  | nil => simp [insertPoint]
  | cons q rest ih =>
    rw [List.map_cons, List.pairwise_cons] at hs
    rw [insertPoint]
    split_ifs with h1 h2
    · -- new first point
      exact List.pairwise_cons.2
        ⟨List.forall_mem_cons.2 ⟨h1, fun x hx => h1.trans (hs.1 x hx)⟩, List.pairwise_cons.2 hs⟩
    · -- `q` stays first: behind it come `pt` or old positions
      exact List.pairwise_cons.2
        ⟨fun x hx => (mem_map_fst_insertPoint pt rest x hx).elim (· ▸ h2) (hs.1 x), ih hs.2⟩
    · -- merged into `q`
      exact List.pairwise_cons.2 hs

/-! ### the quadrature step of PMD and PDL, accumulation over a path -/

theorem quadStep_nonneg (x b : ℝ) : 0 ≤ quadStep x b := Real.sqrt_nonneg _

theorem quadStep_sq (x b : ℝ) : quadStep x b ^ 2 = x ^ 2 + b ^ 2 := by
  simp only [quadStep, transc_sqrt]
  rw [Real.sq_sqrt (add_nonneg (mul_self_nonneg _) (mul_self_nonneg _))]
  ring

theorem accPath_eq (a : Acc ℝ) (cs : List (Contribution ℝ)) :
    accPath a cs = { cd := a.cd + (cs.map (·.cd)).sum, pmd := (cs.map (·.pmd)).foldl quadStep a.pmd,
                     pdl := (cs.map (·.pdl)).foldl quadStep a.pdl, latency := a.latency + (cs.map (·.latency)).sum } := by
  induction cs generalizing a with
  | nil => simp [accPath]
  | cons c rest ih => rw [accPath, List.foldl_cons, ← accPath, ih]; simp [accStep, add_assoc]

end Gnpy.Fiber
