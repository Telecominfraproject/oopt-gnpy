import GnpyModel.Py
/- Lemmas about the Python list and integer semantics. Model: GnpyModel/Py.lean. Core Lean only: what needs Mathlib is
   elsewhere (`sorted_perm`, `sorted_pairwise` in ListIdioms.lean; `mapE_eq_ok`, `mapE_total`, which relate the inputs and
   results of `mapE` by `List.Forall₂`, in SlotsMap.lean). -/
namespace Gnpy.Py

theorem length_rep {α : Type} (n : Int) (x : α) : (rep n x).length = n.toNat := by
  simp [rep]

theorem getElem?_rep {α : Type} (n : Int) (x : α) (k : Nat) :
    (rep n x)[k]? = if k < n.toNat then some x else none := by
  simp [rep, List.getElem?_replicate]

theorem length_intRange (a b : Int) : (intRange a b).length = (b - a).toNat := by
  simp [intRange]

theorem getElem?_intRange (a b : Int) (k : Nat) :
    (intRange a b)[k]? = if k < (b - a).toNat then some (a + (k : Int)) else none := by
  rw [intRange, List.getElem?_map]
  split <;> simp [*]

theorem indexOf?_eq {α : Type} [DecidableEq α] (x : α) (l : List α) : indexOf? x l = l.idxOf? x := by
  induction l with
  | nil => rfl
  | cons y ys ih => simp [indexOf?, List.idxOf?_cons, ih]

theorem indexOf?_intRange (a b n : Int) (k : Nat) : indexOf? n (intRange a b) = some k ↔ n = a + k ∧ n < b := by
  rw [indexOf?_eq, List.idxOf?, List.findIdx?_eq_some_iff_getElem]
  simp only [intRange, List.getElem_map, List.getElem_range, beq_iff_eq, List.length_map, List.length_range]
  constructor
  · rintro ⟨hk, rfl, -⟩
    exact ⟨rfl, by omega⟩
  · rintro ⟨rfl, h⟩
    exact ⟨by omega, rfl, fun j hj => by omega⟩

theorem intRange_add (a : Int) (n : Nat) : intRange a (a + n) = (List.range n).map fun (k : Nat) => a + (k : Int) := by
  rw [intRange, Int.add_comm, Int.add_sub_cancel, Int.toNat_natCast]

theorem intRange_append {a b c : Int} (h1 : a ≤ b) (h2 : b ≤ c) : intRange a b ++ intRange b c = intRange a c := by
  obtain ⟨p, rfl⟩ := Int.le.dest h1
  obtain ⟨q, rfl⟩ := Int.le.dest h2
  rw [intRange_add, intRange_add, Int.add_assoc, ← Int.natCast_add, intRange_add, List.range_add, List.map_append,
    List.map_map]
  simp only [Function.comp_def, Int.natCast_add, Int.add_assoc]

theorem intRange_eq_cons {a b : Int} (h : a < b) : intRange a b = a :: intRange (a + 1) b := by
  obtain ⟨n, rfl⟩ := Int.lt.dest h
  rw [intRange_add, List.range_succ_eq_map, List.map_cons, List.map_map, Int.natCast_succ, ← Int.add_assoc,
    Int.add_right_comm, intRange_add]
  simp only [Function.comp_def, Int.natCast_zero, Int.add_zero, Nat.succ_eq_add_one, Int.natCast_add, Int.natCast_one,
    Int.add_assoc, Int.add_comm 1]

theorem getLast?_intRange (a b : Int) (h : a < b) : (intRange a b).getLast? = some (b - 1) := by
  obtain ⟨n, rfl⟩ := Int.lt.dest h
  rw [intRange_add, List.range_succ, List.map_append, List.getLast?_append, Int.natCast_succ, ← Int.add_assoc,
    Int.add_sub_cancel]
  rfl

theorem ceilDiv_le_iff {a x g : Int} (hg : 0 < g) : ceilDiv a g ≤ x ↔ a ≤ x * g := by
  rw [ceilDiv, Int.fdiv_eq_ediv_of_nonneg _ (Int.le_of_lt hg), Int.neg_le_iff, Int.le_ediv_iff_mul_le hg, Int.neg_mul,
    Int.neg_le_neg_iff]

theorem le_floorDiv_iff {a x g : Int} (hg : 0 < g) : x ≤ floorDiv a g ↔ x * g ≤ a := by
  rw [floorDiv, Int.fdiv_eq_ediv_of_nonneg _ (Int.le_of_lt hg), Int.le_ediv_iff_mul_le hg]

/-- truncation toward zero is not shift invariant across zero: `k` whole steps upwards move the quotient by at most `k`
    (the floor moves by exactly `k`, and the correction for a negative inexact dividend can only disappear) -/
theorem truncDiv_add_mul_le {a k g : Int} (hg : 0 < g) (hk : 0 ≤ k) :
    truncDiv (a + k * g) g ≤ truncDiv a g + k := by
  have hkg : 0 ≤ k * g := Int.mul_nonneg hk (Int.le_of_lt hg)
  rw [truncDiv, truncDiv, Int.tdiv_eq_ediv, Int.tdiv_eq_ediv, Int.add_mul_ediv_right _ _ (Int.ne_of_gt hg)]
  by_cases h : 0 ≤ a ∨ g ∣ a
  · rw [if_pos h, if_pos (h.imp (fun h => Int.add_nonneg h hkg) (Int.dvd_add_left (Int.dvd_mul_left k g)).2)]
    omega
  · rw [if_neg h, Int.sign_eq_one_of_pos hg]
    split <;> omega

theorem sliceBound_le (len : Nat) (i : Int) : sliceBound len i ≤ len := by
  unfold sliceBound
  split <;> split <;> omega

theorem sliceBound_natCast (len n : Nat) : sliceBound len (n : Int) = min n len := by
  rw [sliceBound, if_neg (Int.not_lt.2 (Int.natCast_nonneg n))]
  split
  · next h => exact (Nat.min_eq_right (Nat.le_of_lt (Int.ofNat_lt.1 h))).symm
  · next h => rw [Int.toNat_natCast, Nat.min_eq_left (Int.ofNat_le.1 (Int.not_lt.1 h))]

theorem slice_natCast_add {α : Type} (l : List α) (n m : Nat) : slice l n ((n : Int) + m) = (l.drop n).take m := by
  rw [slice, ← Int.natCast_add, sliceBound_natCast, sliceBound_natCast]
  rcases Nat.le_total l.length n with h | h
  · rw [Nat.min_eq_right h, List.drop_eq_nil_of_le h, List.drop_eq_nil_of_le (Nat.le_refl _), List.take_nil, List.take_nil]
  · rw [Nat.min_eq_left h, List.take_eq_take_iff, List.length_drop, ← Nat.sub_min_sub_right, Nat.add_sub_cancel_left,
      Nat.min_assoc, Nat.min_self]

theorem take_drop_eq_replicate {α : Type} (l : List α) (n m : Nat) (x : α) :
    (l.drop n).take m = List.replicate m x ↔ ∀ j < m, l[n + j]? = some x := by
  simp only [List.ext_getElem?_iff, List.getElem?_take, List.getElem?_drop, List.getElem?_replicate]
  exact forall_congr' fun j => by split <;> simp [*]

/-- `l[a : a+k] == [x]*k` (k > 0, stop not negative): every position of the slice is a position of the list and holds
    `x`. A negative start wraps around and a stop beyond the end is clamped: both give fewer than `k` cells. -/
theorem slice_eq_rep_iff {α : Type} {l : List α} {a k : Int} {x : α} (hk : 0 < k) (hb : 0 ≤ a + k) :
    slice l a (a + k) = rep k x ↔ ∀ j : Int, a ≤ j → j < a + k → ∃ p : Nat, j = p ∧ l[p]? = some x := by
  rcases Int.lt_or_le a 0 with ha | ha
  · refine iff_of_false (fun h => ?_) fun h => ?_
    · obtain ⟨p, hp⟩ := Int.eq_ofNat_of_zero_le hb
      -- the slice is no longer than its stop bound `p = a + k < k`
      have := congrArg List.length h
      rw [slice, List.length_take, length_rep, hp, sliceBound_natCast] at this
      omega
    · obtain ⟨p, hp, -⟩ := h a (Int.le_refl a) (Int.lt_add_of_pos_right a hk)
      exact Int.not_le.2 ha (hp ▸ Int.natCast_nonneg p)
  · obtain ⟨n, rfl⟩ := Int.eq_ofNat_of_zero_le ha
    obtain ⟨m, rfl⟩ := Int.eq_ofNat_of_zero_le (Int.le_of_lt hk)
    rw [slice_natCast_add, rep, Int.toNat_natCast, take_drop_eq_replicate]
    refine ⟨fun h j h1 h2 => ?_, fun h j hj => ?_⟩
    · obtain ⟨j, rfl⟩ := Int.eq_ofNat_of_zero_le (Int.le_trans ha h1)
      obtain ⟨d, rfl⟩ := Nat.exists_eq_add_of_le (Int.ofNat_le.1 h1)
      exact ⟨n + d, rfl, h d (by omega)⟩
    · obtain ⟨p, hp, hl⟩ := h ((n + j : Nat) : Int) (Int.ofNat_le.2 (Nat.le_add_right n j))
        (Int.natCast_add n j ▸ Int.add_lt_add_left (Int.ofNat_lt.2 hj) _)
      cases Int.ofNat.inj hp
      exact hl

/-- `l[i : j+1] = [x] * n` for in-range `i ≤ j` and `n = j − i + 1`: exactly the cells i..j are replaced -/
theorem sliceAssign_rep {α : Type} {l : List α} {i j : Nat} {n : Int} {x : α} (hij : i ≤ j) (hj : j < l.length)
    (hn : n = j - i + 1) :
    sliceAssign l i ((j : Int) + 1) (rep n x) = l.mapIdx fun k c => if i ≤ k ∧ k ≤ j then x else c := by
  obtain ⟨w, rfl⟩ := Nat.exists_eq_add_of_le hij
  have e : n.toNat = w + 1 := by omega
  have hi : i ≤ l.length := Nat.le_trans hij (Nat.le_of_lt hj)
  have hti : (l.take i).length = i := by rw [List.length_take, Nat.min_eq_left hi]
  rw [sliceAssign, ← Int.natCast_succ, sliceBound_natCast, sliceBound_natCast, rep, e, Nat.min_eq_left hi,
    Nat.min_eq_left hj, Nat.max_eq_right (Nat.le_succ_of_le hij), List.append_assoc]
  refine List.ext_getElem? fun k => ?_
  rw [List.getElem?_mapIdx]
  -- before, inside and behind the slice
  rcases Nat.lt_or_ge k i with h1 | h1
  · rw [List.getElem?_append_left (hti.symm ▸ h1), List.getElem?_take_of_lt h1]
    simp only [show ¬ (i ≤ k ∧ k ≤ i + w) from fun h => Nat.not_le.2 h1 h.1, if_false, Option.map_id']
  · obtain ⟨d, rfl⟩ := Nat.exists_eq_add_of_le h1
    rw [List.getElem?_append_right (hti.symm ▸ h1), hti, Nat.add_sub_cancel_left]
    rcases Nat.lt_or_ge d (w + 1) with h2 | h2
    · have hd : i + d ≤ i + w := Nat.add_le_add_left (Nat.le_of_lt_succ h2) i
      rw [List.getElem?_append_left (by rwa [List.length_replicate]), List.getElem?_replicate, if_pos h2,
        List.getElem?_eq_getElem (Nat.lt_of_le_of_lt hd hj), Option.map_some, if_pos ⟨h1, hd⟩]
    · obtain ⟨t, rfl⟩ := Nat.exists_eq_add_of_le h2
      rw [List.getElem?_append_right (by rwa [List.length_replicate]), List.length_replicate, Nat.add_sub_cancel_left,
        List.getElem?_drop, show (i + w).succ + t = i + (w + 1 + t) by omega]
      simp only [show ¬ (i ≤ i + (w + 1 + t) ∧ i + (w + 1 + t) ≤ i + w) from fun h => by omega, if_false, Option.map_id']

theorem length_sliceAssign_rep {α : Type} (l : List α) (i j : Nat) (x : α) (hij : i ≤ j) (hj : j < l.length) :
    (sliceAssign l i ((j : Int) + 1) (rep (((j : Int) - i) + 1) x)).length = l.length := by
  rw [sliceAssign_rep hij hj rfl, List.length_mapIdx]

theorem enumerate_map_fst {α : Type} (l : List α) : (enumerate l).map (·.1) = List.range l.length := by
  simp [enumerate, Function.comp_def, List.range_eq_range']

theorem enumerate_map_snd {α : Type} (l : List α) : (enumerate l).map (·.2) = l := by
  simp [enumerate, Function.comp_def]

theorem mem_enumerate {α : Type} {l : List α} {p : Nat × α} (h : p ∈ enumerate l) : l[p.1]? = some p.2 := by
  obtain ⟨q, hq, rfl⟩ := List.mem_map.1 h
  exact List.mem_zipIdx_iff_getElem?.1 hq

theorem filterMap_eq_range {α β : Type} (f : α → Option β) (l : List α) :
    l.filterMap f = (List.range l.length).filterMap (fun k => (l[k]?).bind f) := by
  induction l with
  | nil => simp
  | cons x xs ih =>
    rw [List.length_cons, List.range_succ_eq_map, List.filterMap_cons, List.filterMap_cons, List.filterMap_map]
    have : ((fun k => ((x :: xs)[k]?).bind f) ∘ Nat.succ) = fun k => (xs[k]?).bind f := by
      funext k
      simp
    rw [this, ← ih]
    simp

theorem filterE_eq {α ε : Type} {p : α → Except ε Bool} {q : α → Bool} {l : List α} (h : ∀ x ∈ l, p x = .ok (q x)) :
    filterE p l = .ok (l.filter q) := by
  induction l with
  | nil => rfl
  | cons a as ih =>
    rw [filterE, h a List.mem_cons_self, ih fun x hx => h x (List.mem_cons_of_mem _ hx), List.filter_cons]
    cases q a <;> rfl

theorem sumInt_perm {l l' : List Int} (h : l.Perm l') : sumInt l = sumInt l' :=
  h.foldr_eq' (fun x _ y _ z => Int.add_left_comm y x z) 0

theorem mapE_eq_mapM {α β ε : Type} (f : α → Except ε β) (l : List α) : mapE f l = l.mapM f := by
  induction l with
  | nil => rfl
  | cons x xs ih => simp [mapE, ih]

end Gnpy.Py

namespace Gnpy.Slots
open Gnpy.Py

/- in `Gnpy.Slots`, the name under which the C15 check (harness/props/c15.py) lists it -/
theorem nodup_intRange (a b : Int) : (intRange a b).Nodup :=
  List.pairwise_map.2 (List.nodup_range.imp fun h e => h (Int.ofNat_inj.1 (Int.add_left_cancel e)))

end Gnpy.Slots
