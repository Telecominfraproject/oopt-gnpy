import GnpyModel.Xls
import Mathlib.Data.List.Nodup
import Mathlib.Data.List.Pairwise
import GnpyProofs.Lemmas.MapM
/- the workbook converter (C20) definition by definition, in the order of the model file: cells, the sanity checks,
   elements, the connections made at a site, and `convert` inverted once (`convert_ok`, result as the structure
   `Converted`, whose names are `elemNames` / `Known`, distinct by `elemNames_nodup`).  Model: GnpyModel/Xls.lean. -/
namespace Gnpy

/-- appending a block whose key `i` is above every key so far keeps the list free of repetition -/
theorem nodup_append_key {α : Type} (k : α → Nat) (i : Nat) {p b : List α}
    (hp : p.Nodup ∧ ∀ x ∈ p, k x < i) (hb : b.Nodup ∧ ∀ x ∈ b, k x = i) :
    (p ++ b).Nodup ∧ ∀ x ∈ p ++ b, k x < i + 1 := by
  refine ⟨List.nodup_append.2 ⟨hp.1, hb.1, fun x hx y hy e => ?_⟩, fun x hx => ?_⟩
  · have := hp.2 x hx
    rw [e, hb.2 y hy] at this
    exact Nat.lt_irrefl _ this
  · rcases List.mem_append.1 hx with h | h
    · exact Nat.lt_succ_of_lt (hp.2 x h)
    · exact Nat.lt_succ_of_le (Nat.le_of_eq (hb.2 x h))

end Gnpy
namespace Gnpy.Xls

/-! ### cell layer -/

theorem cleanGet_blank {kw : Dict} {k : String} (d : J)
    (h : kw.get? k = none ∨ kw.get? k = some .null ∨ kw.get? k = some (.str "")) : cleanGet kw k d = d := by
  unfold cleanGet
  rcases h with h | h | h <;> simp only [h]

theorem cleanGet_filled {kw : Dict} {k : String} {v : J} (d : J) (h : kw.get? k = some v)
    (h1 : v ≠ .null) (h2 : v ≠ .str "") : cleanGet kw k d = v := by
  unfold cleanGet
  split <;> simp_all

/-! ### rejections -/

theorem sameLink_comm (a b : Link) : sameLink a b = sameLink b a := by
  rw [Bool.eq_iff_iff]
  simp only [sameLink, Bool.or_eq_true, Bool.and_eq_true, beq_iff_eq]
  constructor <;> rintro (⟨h1, h2⟩ | ⟨h1, h2⟩)
  exacts [.inl ⟨h1.symm, h2.symm⟩, .inr ⟨h2.symm, h1.symm⟩, .inl ⟨h1.symm, h2.symm⟩, .inr ⟨h2.symm, h1.symm⟩]

/-- a rejection `check c e` in front of a `do` block -/
theorem check_bind_eq_ok {α : Type} {c : Bool} {e : XErr} {k : Unit → XR α} {r : α} :
    (check c e >>= k) = .ok r ↔ c = false ∧ k () = .ok r := by
  cases c <;> simp [check]

theorem check_eq_ok {c : Bool} {e : XErr} {u : Unit} : check c e = .ok u ↔ c = false := by
  cases c <;> simp [check]

theorem check_bind_eq_error {α : Type} {c : Bool} {e e' : XErr} {k : Unit → XR α} :
    (check c e >>= k) = .error e' → e' = e ∨ k () = .error e' := by
  cases c
  · exact .inr  -- `check false e >>= k` reduces to `k ()`
  · exact fun h => .inl (Except.error.inj h).symm

theorem check_eq_error {c : Bool} {e e' : XErr} (h : check c e = .error e') : e' = e := by
  cases c
  · cases h
  · exact (Except.error.inj h).symm

theorem sanity_error_topology {t : Table} {e : XErr} (h : sanity t = .error e) : e.isTopology = true := by
  -- `sanity` is eight checks in a row: seven in front of the rest of the block, then the last one
  iterate 7
    rcases check_bind_eq_error h with rfl | h
    · rfl
  cases check_eq_error h
  rfl

theorem correctType_city (links : List Link) (n : Node) : (correctType links n).city = n.city := by
  unfold correctType
  split <;> rfl

/-! ### elements -/

theorem roadmElem_name {n : Node} {rows : List RoadmRow} {e : Elem}
    (h : roadmElem n rows = .ok e) : e.name = .roadm n.city := by
  simp only [roadmElem, Except.bind_eq_ok, Except.pure_eq_ok_iff] at h
  obtain ⟨_, _, rfl⟩ := h
  rfl

/-- what a fibre element says: type, type_variety and params of one side of a Links row -/
def IsFiberOf (e : Elem) (src dst : String) (s : LinkSide) : Prop :=
  e.name = .fiber src dst s.cable ∧ e.body.get? "type" = some (.str "Fiber") ∧
  e.body.get? "type_variety" = some s.fiber ∧ ∃ p, fiberParams s = .ok p ∧ e.body.get? "params" = some (.obj p)

theorem fiberElem_isFiberOf {src dst : String} {s : LinkSide} {na nb : Node} {e : Elem}
    (h : fiberElem src dst s na nb = .ok e) : IsFiberOf e src dst s := by
  simp only [fiberElem, Except.bind_eq_ok, Except.pure_eq_ok_iff] at h
  obtain ⟨p, hp, rfl⟩ := h
  exact ⟨rfl, by simp [Dict.get?], by simp [Dict.get?], p, hp, by simp [Dict.get?]⟩

theorem simpleElem_type (nm : Name) (n : Node) (ty : String) (extra : Dict) :
    (simpleElem nm n ty extra).body.get? "type" = some (.str ty) := by
  simp [simpleElem, Dict.get?]

/-! ### connections -/

theorem fiberLink_eq_ok {links : List Link} {src dst : String} {nm : Name}
    (h : fiberLink links src dst = .ok nm) :
    ∃ l ∈ links, nm = .fiber l.a l.z l.east.cable ∨ nm = .fiber l.z l.a l.west.cable := by
  unfold fiberLink at h
  split at h
  · cases h
  next l hl =>
    refine ⟨l, (List.mem_filter.1 (List.mem_of_find?_eq_some hl)).1, ?_⟩
    split at h <;> simp only [Except.pure_eq_ok_iff] at h
    exacts [.inl h.symm, .inr h.symm]

/-- what the ILA loop answers is its start value or names a side of one of the rows -/
theorem ilaLoop_eq_some {dest : String} : ∀ {es : List Eqpt} {east : Bool} {acc : Option Name} {nm : Name},
    ilaLoop dest es east acc = some nm →
      acc = some nm ∨ ∃ e ∈ es, ∃ b : Bool, nm = if b then Name.eqE e.a e.z else Name.eqW e.a e.z
  | [], east, acc, nm, h => Or.inl h
  | e :: es, east, acc, nm, h => by
    rcases ilaLoop_eq_some (es := es) h with h1 | ⟨e', he', h2⟩
    · exact .inr ⟨e, List.mem_cons_self, _, (Option.some.inj h1).symm⟩
    · exact .inr ⟨e', List.mem_cons_of_mem _ he', h2⟩

/-- `isType` (defined with `convert`) is the comparison `eqptIn` and `connectionsAt` spell out; once the site's type is
rewritten to its literal with this, `String.reduceBEq` evaluates their comparisons with the other two types -/
theorem isType_iff {s : String} {n : Node} : isType s n = true ↔ lower n.ntype = s := beq_iff_eq

theorem eqptIn_fused {t : Table} {n : Node} (h : isType "fused" n = true) (dest : String) (east : Bool) :
    eqptIn t n dest east = some (if east then Name.fusedE n.city else Name.fusedW n.city) :=
  if_pos h

theorem eqptIn_roadm {t : Table} {n : Node} (h : isType "roadm" n = true) (dest : String) (east : Bool) :
    eqptIn t n dest east = ((eqptsAt t.eqpts n.city).filter (fun e => e.z == dest)).getLast?.map
      (fun e => if east then Name.eqE e.a e.z else Name.eqW e.a e.z) := by
  rw [isType_iff] at h
  unfold eqptIn
  simp only [h, String.reduceBEq, Bool.false_eq_true, if_false, if_true]
  -- the model tests first whether the site has an Eqpt row; with no row both sides are `none`
  cases eqptsAt t.eqpts n.city <;> rfl

theorem eqptIn_ila {t : Table} {n : Node} (h : isType "ila" n = true) (dest : String) (east : Bool) :
    eqptIn t n dest east =
      if (eqptsAt t.eqpts n.city).isEmpty then some (if east then Name.ilaE n.city else Name.ilaW n.city)
      else ilaLoop dest (eqptsAt t.eqpts n.city) east none := by
  rw [isType_iff] at h
  unfold eqptIn
  simp only [h, String.reduceBEq, Bool.false_eq_true, if_false, if_true]
  -- the model tests `!es.isEmpty`, the statement `es.isEmpty`
  cases eqptsAt t.eqpts n.city <;> rfl

theorem eqptIn_other {t : Table} {n : Node} (h1 : isType "fused" n = false) (h2 : isType "roadm" n = false)
    (h3 : isType "ila" n = false) (dest : String) (east : Bool) : eqptIn t n dest east = none := by
  unfold isType at h1 h2 h3
  unfold eqptIn
  simp only [h1, h2, h3, Bool.false_eq_true, if_false, ite_self]

theorem connectEqpt_ends {P : Name → Prop} {src dst : Name} {mid : Option Name}
    (hs : P src) (hd : P dst) (hm : ∀ m, mid = some m → P m) : ∀ c ∈ connectEqpt src mid dst, P c.1 ∧ P c.2 := by
  cases mid with
  | none => exact List.forall_mem_singleton.2 ⟨hs, hd⟩
  | some m => exact List.forall_mem_cons.2 ⟨⟨hs, hm m rfl⟩, List.forall_mem_singleton.2 ⟨hm m rfl, hd⟩⟩

/-- the connections made at an ILA or fused site with neighbours `o0`, `o1` (Links order): fibre from `o0` → (west
element) → fibre to `o1`, and fibre from `o1` → (east element) → fibre to `o0` -/
theorem connectionsAt_line {t : Table} {n : Node} (hl : isType "ila" n = true ∨ isType "fused" n = true)
    {l : List (Name × Name)} (h : connectionsAt t n = .ok l) :
    ∃ o0, nth (neighbours t.links n.city) 0 = .ok o0 ∧ ∃ o1, nth (neighbours t.links n.city) 1 = .ok o1 ∧
      ∃ a0, fiberLink t.links o0 n.city = .ok a0 ∧ ∃ b1, fiberLink t.links n.city o1 = .ok b1 ∧
      ∃ a1, fiberLink t.links o1 n.city = .ok a1 ∧ ∃ b0, fiberLink t.links n.city o0 = .ok b0 ∧
        connectEqpt a0 (eqptIn t n o0 false) b1 ++ connectEqpt a1 (eqptIn t n o0 true) b0 = l := by
  -- `hl` as the test `connectionsAt` makes
  unfold isType at hl
  rw [← Bool.or_eq_true] at hl
  unfold connectionsAt at h
  simpa only [hl, if_true, Except.bind_eq_ok, Except.pure_eq_ok_iff] using h

/-- the connections made at a ROADM site: for every neighbour, ROADM → (east element) → fibre out and
fibre in → (west element) → ROADM -/
theorem connectionsAt_roadm {t : Table} {n : Node} (hr : isType "roadm" n = true) {l : List (Name × Name)}
    (h : connectionsAt t n = .ok l) :
    ∃ parts, List.Forall₂ (fun o part => ∃ fo, fiberLink t.links n.city o = .ok fo ∧
        ∃ fi, fiberLink t.links o n.city = .ok fi ∧
          connectEqpt (.roadm n.city) (eqptIn t n o true) fo ++ connectEqpt fi (eqptIn t n o false) (.roadm n.city) = part)
      (neighbours t.links n.city) parts ∧ parts.flatten = l := by
  rw [isType_iff] at hr
  unfold connectionsAt at h
  simpa only [hr, String.reduceBEq, Bool.or_self, Bool.false_eq_true, if_false, if_true, Except.bind_eq_ok,
    Except.pure_eq_ok_iff, Except.mapM_eq_ok] using h

theorem connectionsAt_other {t : Table} {n : Node} (h1 : isType "ila" n = false) (h2 : isType "fused" n = false)
    (h3 : isType "roadm" n = false) : connectionsAt t n = .ok [] := by
  unfold isType at h1 h2 h3
  unfold connectionsAt
  simp only [h1, h2, h3, Bool.or_self, Bool.false_eq_true, if_false]
  rfl

/-! ### the converter -/

/-- the node list after the degree correction -/
def fixedNodes (t : Table) : List Node := t.nodes.map (correctType t.links)
def fixedTable (t : Table) : Table := { t with nodes := fixedNodes t }

theorem fixedNodes_cities (t : Table) : (fixedNodes t).map (·.city) = cities t.nodes := by
  simp [fixedNodes, cities, List.map_map, Function.comp_def, correctType_city]

/-- ROADM sites: a transceiver and a ROADM each -/
def roadmSites (t : Table) : List Node := t.nodes.filter (isType "roadm")
/-- fused sites: a west and an east Fused element each -/
def fusedSites (t : Table) : List Node := t.nodes.filter (isType "fused")
/-- ILA sites without Eqpt row: a west and an east amplifier of no given type each -/
def bareIlas (t : Table) : List Node :=
  t.nodes.filter (fun n => isType "ila" n && (eqptsAt t.eqpts n.city).isEmpty)

/-- the names of the elements of a converted workbook (`t` the table after the degree correction), block by block -/
def elemNames (t : Table) : List Name :=
  (roadmSites t).map (fun n => Name.trx n.city) ++ (roadmSites t).map (fun n => Name.roadm n.city)
  ++ (fusedSites t).map (fun n => Name.fusedW n.city) ++ (fusedSites t).map (fun n => Name.fusedE n.city)
  ++ t.links.map (fun l => Name.fiber l.a l.z l.east.cable) ++ t.links.map (fun l => Name.fiber l.z l.a l.west.cable)
  ++ (bareIlas t).map (fun n => Name.ilaW n.city) ++ (bareIlas t).map (fun n => Name.ilaE n.city)
  ++ t.eqpts.map (fun q => Name.eqE q.a q.z) ++ t.eqpts.map (fun q => Name.eqW q.a q.z)

/-- membership in `elemNames`, read off the name's constructor -/
def Known (t : Table) : Name → Prop
  | .trx c | .roadm c => ∃ n ∈ roadmSites t, n.city = c
  | .fusedW c | .fusedE c => ∃ n ∈ fusedSites t, n.city = c
  | .fiber a z cable => (∃ l ∈ t.links, l.a = a ∧ l.z = z ∧ l.east.cable = cable) ∨
      (∃ l ∈ t.links, l.z = a ∧ l.a = z ∧ l.west.cable = cable)
  | .ilaW c | .ilaE c => ∃ n ∈ bareIlas t, n.city = c
  | .eqE a z | .eqW a z => ∃ q ∈ t.eqpts, q.a = a ∧ q.z = z

theorem mem_elemNames {t : Table} {nm : Name} : nm ∈ elemNames t ↔ Known t nm := by
  simp only [elemNames, List.mem_append, List.mem_map]
  -- every block holds one constructor: the blocks of the other constructors drop out
  cases nm <;> simp only [Known, Name.trx.injEq, Name.roadm.injEq, Name.fusedW.injEq, Name.fusedE.injEq,
    Name.fiber.injEq, Name.ilaW.injEq, Name.ilaE.injEq, Name.eqE.injEq, Name.eqW.injEq, reduceCtorEq, and_false,
    exists_false, or_false, false_or]

theorem known_eqptName {t : Table} {q : Eqpt} (hq : q ∈ t.eqpts) (east : Bool) :
    Known t (if east then Name.eqE q.a q.z else Name.eqW q.a q.z) := by
  cases east <;> exact ⟨q, hq, rfl, rfl⟩

theorem known_eqptIn {t : Table} {n : Node} (hn : n ∈ t.nodes) {dest : String} {east : Bool} (nm : Name)
    (h : eqptIn t n dest east = some nm) : Known t nm := by
  by_cases hf : isType "fused" n = true
  · cases (eqptIn_fused hf dest east).symm.trans h
    cases east <;> exact ⟨n, List.mem_filter.2 ⟨hn, hf⟩, rfl⟩
  by_cases hr : isType "roadm" n = true
  · rw [eqptIn_roadm hr] at h
    obtain ⟨e, he, rfl⟩ := Option.map_eq_some_iff.1 h
    exact known_eqptName (List.mem_of_mem_filter (List.mem_of_mem_filter (List.mem_of_getLast? he))) east
  by_cases hi : isType "ila" n = true
  · rw [eqptIn_ila hi] at h
    split at h
    next he =>
      cases Option.some.inj h
      have : n ∈ bareIlas t := List.mem_filter.2 ⟨hn, by rw [hi]; exact he⟩
      cases east <;> exact ⟨n, this, rfl⟩
    · rcases ilaLoop_eq_some h with h1 | ⟨e, he, b, rfl⟩
      · cases h1
      · exact known_eqptName (List.mem_of_mem_filter he) b
  · rw [eqptIn_other (eq_false_of_ne_true hf) (eq_false_of_ne_true hr) (eq_false_of_ne_true hi)] at h
    cases h

theorem known_fiberLink {t : Table} {src dst : String} {nm : Name} (h : fiberLink t.links src dst = .ok nm) :
    Known t nm := by
  obtain ⟨l, hl, rfl | rfl⟩ := fiberLink_eq_ok h
  exacts [.inl ⟨l, hl, rfl, rfl, rfl⟩, .inr ⟨l, hl, rfl, rfl, rfl⟩]

theorem connectionsAt_ends {t : Table} {n : Node} (hn : n ∈ t.nodes) {l : List (Name × Name)}
    (h : connectionsAt t n = .ok l) : ∀ c ∈ l, Known t c.1 ∧ Known t c.2 := by
  by_cases hl : isType "ila" n = true ∨ isType "fused" n = true
  · obtain ⟨o0, -, o1, -, a0, ha0, b1, hb1, a1, ha1, b0, hb0, rfl⟩ := connectionsAt_line hl h
    exact List.forall_mem_append.2
      ⟨connectEqpt_ends (known_fiberLink ha0) (known_fiberLink hb1) (known_eqptIn hn),
       connectEqpt_ends (known_fiberLink ha1) (known_fiberLink hb0) (known_eqptIn hn)⟩
  by_cases hr : isType "roadm" n = true
  · obtain ⟨parts, hp, rfl⟩ := connectionsAt_roadm hr h
    intro c hc
    obtain ⟨part, hpart, hcp⟩ := List.mem_flatten.1 hc
    obtain ⟨o, _, fo, hfo, fi, hfi, rfl⟩ := hp.exists_left hpart
    have hro : Known t (.roadm n.city) := ⟨n, List.mem_filter.2 ⟨hn, hr⟩, rfl⟩
    exact List.forall_mem_append.2
      ⟨connectEqpt_ends hro (known_fiberLink hfo) (known_eqptIn hn),
       connectEqpt_ends (known_fiberLink hfi) hro (known_eqptIn hn)⟩ c hcp
  · rw [not_or] at hl
    cases (connectionsAt_other (eq_false_of_ne_true hl.1) (eq_false_of_ne_true hl.2) (eq_false_of_ne_true hr)).symm.trans h
    exact fun c hc => nomatch hc

/-- the fibre names are distinct when no two Links rows join the same two cities and no row joins a city to itself -/
theorem fiberNames_nodup {links : List Link} (hdup : links.Pairwise (fun l1 l2 => sameLink l1 l2 = false))
    (hself : ∀ l ∈ links, l.a ≠ l.z) :
    (links.map (fun l => Name.fiber l.a l.z l.east.cable) ++
      links.map (fun l => Name.fiber l.z l.a l.west.cable)).Nodup := by
  have same : ∀ {a b : Link}, a.a = b.a ∧ a.z = b.z ∨ a.a = b.z ∧ a.z = b.a → sameLink a b = false → False := by
    rintro a b (⟨h1, h2⟩ | ⟨h1, h2⟩) h <;> simp [sameLink, h1, h2] at h
  refine List.nodup_append.2 ⟨?_, ?_, fun x hx y hy hxy => ?_⟩
  · exact hdup.map _ fun _ _ hab he => by injection he with e1 e2; exact same (.inl ⟨e1, e2⟩) hab
  · exact hdup.map _ fun _ _ hab he => by injection he with e1 e2; exact same (.inl ⟨e2, e1⟩) hab
  · obtain ⟨l1, hl1, rfl⟩ := List.mem_map.1 hx
    obtain ⟨l2, hl2, rfl⟩ := List.mem_map.1 hy
    injection hxy with e1 e2
    by_cases h12 : l1 = l2
    · exact hself l1 hl1 (h12 ▸ e1)
    · have : Std.Symm (fun l1 l2 : Link => sameLink l1 l2 = false) := ⟨fun a b h => sameLink_comm a b ▸ h⟩
      exact same (.inr ⟨e1, e2⟩) (hdup.forall hl1 hl2 h12)

/-- the element names of a table that passes the sanity checks and has no self-loop row are distinct -/
theorem elemNames_nodup (t0 : Table) (hs : sanity t0 = .ok ()) (hself : ∀ l ∈ t0.links, l.a ≠ l.z) :
    (elemNames (fixedTable t0)).Nodup := by
  simp only [sanity, check_bind_eq_ok, check_eq_ok] at hs
  obtain ⟨v1, _, v3, _, _, _, v7, _⟩ := hs
  have hcity : ((fixedNodes t0).map (·.city)).Nodup := by
    rw [fixedNodes_cities]
    simpa [badDuplicateCity] using v1
  have hlinks : t0.links.Pairwise (fun l1 l2 => sameLink l1 l2 = false) := by
    simpa [badDuplicateLink, hasDuplicateLink] using v3
  have heq : t0.eqpts.Pairwise (fun e1 e2 => (e1.a == e2.a && e1.z == e2.z) = false) := by
    simpa [badDuplicateEqpt, hasDuplicateEqpt] using v7
  -- a block that names the cities of some of the sites
  have site : ∀ (P : Node → Bool) (c : String → Name), Function.Injective c →
      (((fixedTable t0).nodes.filter P).map (fun n => c n.city)).Nodup := fun P c hc => by
    have := (hcity.sublist ((List.filter_sublist (p := P)).map _)).map hc
    rwa [List.map_map] at this
  -- a block that names the Eqpt rows
  have row : ∀ c : String → String → Name, (∀ a z a' z', c a z = c a' z' → a = a' ∧ z = z') →
      (t0.eqpts.map (fun q => c q.a q.z)).Nodup := fun c hc =>
    heq.map _ fun _ _ hab he => by simp [hc _ _ _ _ he] at hab
  -- the blocks of `elemNames` are told apart by the constructor of the name; from the last block back to the first
  refine (nodup_append_key Name.ctorIdx 8 ?_
    ⟨row _ fun _ _ _ _ => Name.eqW.inj, List.forall_mem_map.2 fun _ _ => rfl⟩).1
  refine nodup_append_key _ 7 ?_ ⟨row _ fun _ _ _ _ => Name.eqE.inj, List.forall_mem_map.2 fun _ _ => rfl⟩
  refine nodup_append_key _ 6 ?_ ⟨site _ _ fun _ _ => Name.ilaE.inj, List.forall_mem_map.2 fun _ _ => rfl⟩
  refine nodup_append_key _ 5 ?_ ⟨site _ _ fun _ _ => Name.ilaW.inj, List.forall_mem_map.2 fun _ _ => rfl⟩
  -- the two fibre blocks share their constructor and are taken as one
  rw [List.append_assoc]
  refine nodup_append_key _ 4 ?_ ⟨fiberNames_nodup hlinks hself,
    List.forall_mem_append.2 ⟨List.forall_mem_map.2 fun _ _ => rfl, List.forall_mem_map.2 fun _ _ => rfl⟩⟩
  refine nodup_append_key _ 3 ?_ ⟨site _ _ fun _ _ => Name.fusedE.inj, List.forall_mem_map.2 fun _ _ => rfl⟩
  refine nodup_append_key _ 2 ?_ ⟨site _ _ fun _ _ => Name.fusedW.inj, List.forall_mem_map.2 fun _ _ => rfl⟩
  exact nodup_append_key _ 1
    ⟨site _ _ fun _ _ => Name.trx.inj, List.forall_mem_map.2 fun _ _ => Nat.zero_lt_one⟩
    ⟨site _ _ fun _ _ => Name.roadm.inj, List.forall_mem_map.2 fun _ _ => rfl⟩

/-- what a successful `convert t0 = .ok o` says: every site and every Links row has its elements in `o.elements` (those
built with `mapM` said in terms of their row), the element names are `elemNames` (which is all that is said of the
elements of the Eqpt rows), and the connections are those made at each site followed by the transceiver connections -/
structure Converted (t0 : Table) (o : Out) : Prop where
  sane : sanity t0 = .ok ()
  trx : ∀ n ∈ roadmSites (fixedTable t0), simpleElem (.trx n.city) n "Transceiver" ∈ o.elements
  roadm : ∀ n ∈ roadmSites (fixedTable t0), ∃ e ∈ o.elements, roadmElem n t0.roadms = .ok e
  fusedW : ∀ n ∈ fusedSites (fixedTable t0), simpleElem (.fusedW n.city) n "Fused" ∈ o.elements
  fusedE : ∀ n ∈ fusedSites (fixedTable t0), simpleElem (.fusedE n.city) n "Fused" ∈ o.elements
  east : ∀ l ∈ t0.links, ∃ e ∈ o.elements, ∃ na nb, fiberElem l.a l.z l.east na nb = .ok e
  west : ∀ l ∈ t0.links, ∃ e ∈ o.elements, ∃ na nb, fiberElem l.z l.a l.west na nb = .ok e
  ilaW : ∀ n ∈ bareIlas (fixedTable t0), simpleElem (.ilaW n.city) n "Edfa" ilaOperational ∈ o.elements
  ilaE : ∀ n ∈ bareIlas (fixedTable t0), simpleElem (.ilaE n.city) n "Edfa" ilaOperational ∈ o.elements
  names : o.elements.map (·.name) = elemNames (fixedTable t0)
  connections : ∃ pc, List.Forall₂ (fun n l => connectionsAt (fixedTable t0) n = .ok l) (fixedNodes t0) pc ∧
    o.connections = pc.flatten ++ ((roadmSites (fixedTable t0)).map
      (fun n => [(Name.trx n.city, Name.roadm n.city), (Name.roadm n.city, Name.trx n.city)])).flatten

theorem convert_ok {t0 : Table} {o : Out} (h : convert t0 = .ok o) : Converted t0 o := by
  unfold convert at h
  simp only [Except.bind_eq_ok, Except.pure_eq_ok_iff, Except.mapM_eq_ok] at h
  obtain ⟨u, hs, re, hre, ef, hef, wf, hwf, ee, hee, we, hwe, pc, hpc, ho⟩ := h
  -- the ten blocks of the element list, in the order `convert` appends them
  have mem : ∀ e,
      e ∈ (roadmSites (fixedTable t0)).map (fun n => simpleElem (.trx n.city) n "Transceiver") ∨ e ∈ re ∨
      e ∈ (fusedSites (fixedTable t0)).map (fun n => simpleElem (.fusedW n.city) n "Fused") ∨
      e ∈ (fusedSites (fixedTable t0)).map (fun n => simpleElem (.fusedE n.city) n "Fused") ∨ e ∈ ef ∨ e ∈ wf ∨
      e ∈ (bareIlas (fixedTable t0)).map (fun n => simpleElem (.ilaW n.city) n "Edfa" ilaOperational) ∨
      e ∈ (bareIlas (fixedTable t0)).map (fun n => simpleElem (.ilaE n.city) n "Edfa" ilaOperational) ∨
      e ∈ ee ∨ e ∈ we → e ∈ o.elements := fun e he => by
    rw [← ho]
    simp only [List.mem_append, or_assoc]
    exact he
  refine {
    sane := hs
    trx := fun n hn => mem _ (.inl (List.mem_map_of_mem hn))
    roadm := fun n hn => (hre.exists_right hn).imp fun e he => ⟨mem e (.inr <| .inl he.1), he.2⟩
    fusedW := fun n hn => mem _ (.inr <| .inr <| .inl (List.mem_map_of_mem hn))
    fusedE := fun n hn => mem _ (.inr <| .inr <| .inr <| .inl (List.mem_map_of_mem hn))
    east := fun l hl => let ⟨e, he, na, _, nb, _, h⟩ := hef.exists_right hl
      ⟨e, mem e (.inr <| .inr <| .inr <| .inr <| .inl he), na, nb, h⟩
    west := fun l hl => let ⟨e, he, na, _, nb, _, h⟩ := hwf.exists_right hl
      ⟨e, mem e (.inr <| .inr <| .inr <| .inr <| .inr <| .inl he), na, nb, h⟩
    ilaW := fun n hn =>
      mem _ (.inr <| .inr <| .inr <| .inr <| .inr <| .inr <| .inl (List.mem_map_of_mem hn))
    ilaE := fun n hn =>
      mem _ (.inr <| .inr <| .inr <| .inr <| .inr <| .inr <| .inr <| .inl (List.mem_map_of_mem hn))
    names := ?_
    connections := ⟨pc, hpc, ho ▸ rfl⟩ }
  have nre := (hre.map_eq_map fun n e he => (roadmElem_name he).symm).symm
  have nef := (hef.map_eq_map fun l e ⟨_, _, _, _, he⟩ => (fiberElem_isFiberOf he).1.symm).symm
  have nwf := (hwf.map_eq_map fun l e ⟨_, _, _, _, he⟩ => (fiberElem_isFiberOf he).1.symm).symm
  have nee := (hee.map_eq_map (f := fun q => Name.eqE q.a q.z) (g := (·.name)) fun q e ⟨_, _, he⟩ => he ▸ rfl).symm
  have nwe := (hwe.map_eq_map (f := fun q => Name.eqW q.a q.z) (g := (·.name)) fun q e ⟨_, _, he⟩ => he ▸ rfl).symm
  rw [← ho]
  simp only [List.map_append, List.map_map, nre, nef, nwf, nee, nwe]
  rfl

/-- every known name is the name of an element -/
theorem Converted.known {t0 : Table} {o : Out} (cv : Converted t0 o) {nm : Name} (h : Known (fixedTable t0) nm) :
    ∃ e ∈ o.elements, e.name = nm :=
  List.mem_map.1 (cv.names ▸ mem_elemNames.2 h)

end Gnpy.Xls
