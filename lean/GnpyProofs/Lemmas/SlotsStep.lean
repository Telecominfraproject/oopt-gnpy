import GnpyProofs.Lemmas.Slots
import GnpyProofs.Lemmas.ListIdioms
/- Lemmas for C14: order_slots / restore_order, one call of pth_assign_spectrum (`computeNM_eq_ok`, the reserved-spectrum
   check, `step_eq_ok`, `step_accepted_spec`), histories of calls (`Served`), and the completeness direction (operations
   succeed when their preconditions hold). Model: GnpyModel/Slots.lean. -/
namespace Gnpy.Slots
open Gnpy.Py

/-! ### `order_slots` and `restore_order` -/

/-- `restore_order` returns the selected pairs (a permutation of them; the unserved positions are dropped) -/
theorem restoreOrder_perm {α : Type} (sel : List α) (order : List Nat) (h : sel.length ≤ order.length) :
    (restoreOrder (sel.map some ++ List.replicate (order.length - sel.length) none) order).Perm sel := by
  unfold restoreOrder
  set padded := sel.map some ++ List.replicate (order.length - sel.length) none with hp
  have hlen : padded.length = order.length := by
    rw [hp, List.length_append, List.length_map, List.length_replicate]
    omega
  refine (List.Perm.filterMap _ (sorted_perm _ (enumerate order))).trans ?_
  have e1 : (enumerate order).filterMap (fun p => (padded[p.1]?).join) = padded.filterMap id := by
    rw [filterMap_eq_range id padded, hlen, ← enumerate_map_fst, List.filterMap_map]
    rfl
  rw [e1, hp, List.filterMap_append, List.filterMap_map]
  simp

/-- `restore_order(elements, order)` when `order` is a permutation of `0 … L−1`: position `k` of the original request
    receives the element that sits at the position `p` with `order[p] = k`, unserved positions are dropped -/
theorem restoreOrder_positional {α : Type} (elements : List (Option α)) (order : List Nat)
    (hperm : order.Perm (List.range order.length)) :
    ∃ g : Nat → Option α, restoreOrder elements order = (List.range order.length).filterMap g ∧
      ∀ (k : Nat) (a : α), g k = some a → ∃ p : Nat, order[p]? = some k ∧ elements[p]? = some (some a) := by
  unfold restoreOrder
  set S := sorted (fun a b : Nat × Nat => decide (a.2 ≤ b.2)) (enumerate order)
  have hSperm : S.Perm (enumerate order) := sorted_perm _ _
  -- sorted by the second components, a permutation of `0 … L−1`: these are `0 … L−1` in this order
  have hSkeys : S.map (·.2) = List.range order.length := by
    refine List.Perm.eq_of_pairwise (fun a b _ _ => Nat.le_antisymm) ?_ List.pairwise_le_range
      ((enumerate_map_snd order ▸ hSperm.map _).trans hperm)
    rw [List.pairwise_map]
    exact (sorted_pairwise _ (fun a b => by simp only [decide_eq_true_eq]; omega)
      (fun a b c => by simp only [decide_eq_true_eq]; omega) _).imp of_decide_eq_true
  refine ⟨fun k => (S[k]?).bind fun p => (elements[p.1]?).join, ?_, fun k a hk => ?_⟩
  · rw [filterMap_eq_range, show S.length = order.length by simpa using congrArg List.length hSkeys]
  · obtain ⟨p, hsk, hp⟩ := Option.bind_eq_some_iff.1 hk
    have h1 : (List.range order.length)[k]? = some p.2 := by
      rw [← hSkeys, List.getElem?_map, hsk]
      rfl
    obtain ⟨_, e⟩ := List.getElem?_eq_some_iff.1 h1
    rw [List.getElem_range] at e
    exact ⟨p.1, e ▸ mem_enumerate (hSperm.mem_iff.1 (List.mem_of_getElem? hsk)), Option.join_eq_some_iff.1 hp⟩

theorem orderSlots_perm (es : List Entry) : (orderSlots es).Perm (enumerate es) :=
  sorted_perm _ _

theorem orderSlots_length (es : List Entry) : (orderSlots es).length = es.length := by
  rw [(orderSlots_perm es).length_eq, enumerate, List.length_map, List.length_zipIdx]

theorem mem_orderSlots {es : List Entry} {q : Nat × Entry} (h : q ∈ orderSlots es) : es[q.1]? = some q.2 :=
  mem_enumerate ((orderSlots_perm es).mem_iff.1 h)

/-- the order that `order_slots` hands to `restore_order` is a permutation of the positions of the request -/
theorem orderSlots_order_perm (es : List Entry) :
    ((orderSlots es).map (·.1)).Perm (List.range ((orderSlots es).map (·.1)).length) := by
  rw [List.length_map, orderSlots_length, ← enumerate_map_fst]
  exact (orderSlots_perm es).map _

/-! ### one call of `pth_assign_spectrum` -/

/-- a call of `compute_n_m` that returned: the selection loop ran on the test bitmap `t` of the route over the entries in
    the order of `order_slots`, and `restore_order` handed its pairs back in request order -/
theorem computeNM_eq_ok {req : Int} {entries : List Entry} {path : List Nat} {s : List Oms} {pcm : Int} {pol : Policy}
    {out : List (Int × Int)} {r : Int} (h : computeNM req entries path s pcm pol = .ok (out, r)) :
    ∃ t sel, aggregate path s = .ok t ∧ nmLoop pcm pol t req ((orderSlots entries).map (·.2)) = .ok (sel, r) ∧
      out = restoreOrder (sel.map some ++ List.replicate ((orderSlots entries).length - sel.length) none)
              ((orderSlots entries).map (·.1)) := by
  simp only [computeNM, Except.bind_eq_ok, Except.pure_eq_ok_iff, Prod.mk.injEq] at h
  obtain ⟨t, ha, ⟨sel, r'⟩, hl, rfl, rfl⟩ := h
  exact ⟨t, sel, ha, hl, rfl⟩

/-- the channels that fit into the reserved widths when every entry fixes a non-zero M: `Σ M // pcm` -/
theorem reservedChannels_all (entries : List Entry) (pcm : Int) (hpcm : pcm ≠ 0)
    (hall : ∀ e ∈ entries, ∃ m, e.m = some m ∧ m ≠ 0) :
    reservedChannels entries pcm = .ok (some (sumInt (entries.map (fun e => floorDiv (e.m.getD 0) pcm)))) := by
  unfold reservedChannels
  rw [if_neg hpcm]
  split
  · rfl
  · next hn =>
    refine absurd (List.all_eq_true.2 fun e he => ?_) hn
    obtain ⟨m, hm, hm0⟩ := hall e he
    rw [hm]
    simpa using hm0

theorem reservedShort_all (entries : List Entry) (pcm nbWl : Int) (hpcm : pcm ≠ 0)
    (hall : ∀ e ∈ entries, ∃ m, e.m = some m ∧ m ≠ 0) :
    reservedShort entries pcm nbWl = .ok (decide (nbWl > sumInt (entries.map (fun e => floorDiv (e.m.getD 0) pcm)))) := by
  rw [reservedShort, reservedChannels_all entries pcm hpcm hall]
  rfl

/-- the ways `pth_assign_spectrum` gets through one request: it leaves the state alone (skipped or blocked), or it
    applies on the route what `compute_n_m` selected, nothing of the demand remaining -/
theorem step_eq_ok {pol : Policy} {s s' : List Oms} {r : Request} {o : Outcome} (h : step pol s r = .ok (s', o)) :
    (s' = s ∧ ∀ nm, o ≠ Outcome.accepted nm) ∨
    ∃ nbWl requiredM x pcm sel rem,
      slotsVsBandwidth r.pathBandwidth r.spacing r.bitRate = .ok (nbWl, requiredM) ∧
      slotsVsBandwidth r.bitRate r.spacing r.bitRate = .ok (x, pcm) ∧
      computeNM requiredM r.entries r.pathOms s pcm pol = .ok (sel, rem) ∧ rem ≤ 0 ∧
      applyPath sel r.id nbWl r.pathOms s = .ok s' ∧ o = Outcome.accepted sel := by
  simp only [step, Except.ite_eq_ok, Except.bind_eq_ok, Except.pure_eq_ok_iff, Prod.mk.injEq] at h
  -- the four exits of `step`, in the order of its text
  rcases h with ⟨-, rfl, rfl⟩ | ⟨-, ⟨nbWl, requiredM⟩, h1, ⟨x, pcm⟩, h2, _, -, h⟩
  · -- skipped: blocked before the call
    exact Or.inl ⟨rfl, nofun⟩
  rcases h with ⟨-, rfl, rfl⟩ | ⟨-, ⟨sel, rem⟩, h4, h⟩
  · -- not enough reserved spectrum
    exact Or.inl ⟨rfl, nofun⟩
  rcases h with ⟨-, rfl, rfl⟩ | ⟨hrem, _, h5, rfl, rfl⟩
  · -- some of the demand remains: no spectrum
    exact Or.inl ⟨rfl, nofun⟩
  · exact Or.inr ⟨nbWl, requiredM, x, pcm, sel, rem, h1, h2, h4, Int.not_lt.1 hrem, h5, rfl⟩

/-- the course of an accepted call of `pth_assign_spectrum`: the demand `(nbWl, requiredM)`, the test bitmap `t` of the
    route, what the loop of `compute_n_m` selected on it (`sel`, in the order of `order_slots`) with what `nmLoop_spec`
    says about the selection, the pairs `out` handed back in request order, and the final loop over the route -/
structure Accepted (pol : Policy) (s s' : List Oms) (r : Request) (out : List (Int × Int)) (nbWl requiredM pcm : Int)
    (t : Bitmap) (sel : List (Int × Int)) : Prop where
  demand : slotsVsBandwidth r.pathBandwidth r.spacing r.bitRate = .ok (nbWl, requiredM)
  agg : aggregate r.pathOms s = .ok t
  wf : t.WF
  loop : nmLoop pcm pol t requiredM ((orderSlots r.entries).map (·.2)) = .ok (sel, requiredM - sumInt (sel.map (·.2)))
  fits : ∀ nm ∈ sel, 0 < nm.2 ∧ RangeOK t nm.1 nm.2 ∧ t.nMin < nm.1 - nm.2 ∧ nm.1 + nm.2 - 1 ≤ t.nMax
  disj : sel.Pairwise Disj
  honoured : List.Forall₂ Honoured (((orderSlots r.entries).map (·.2)).take sel.length) sel
  perm : out.Perm sel
  order : out = restoreOrder (sel.map some ++ List.replicate ((orderSlots r.entries).length - sel.length) none)
            ((orderSlots r.entries).map (·.1))
  enough : requiredM ≤ sumInt (out.map (·.2))
  applied : applyPath out r.id nbWl r.pathOms s = .ok s'

theorem step_accepted_spec {pol : Policy} {s s' : List Oms} {r : Request} {out : List (Int × Int)} (hs : StateWF s)
    (h : step pol s r = .ok (s', Outcome.accepted out)) :
    ∃ nbWl requiredM pcm t sel, Accepted pol s s' r out nbWl requiredM pcm t sel := by
  rcases step_eq_ok h with ⟨-, hno⟩ | ⟨nbWl, requiredM, x, pcm, sel0, rem, h1, -, h4, hrem, h5, ho⟩
  · exact absurd rfl (hno out)
  cases ho
  obtain ⟨t, sel, a1, a2, a4⟩ := computeNM_eq_ok h4
  have hwf := (aggregate_spec s hs _ t a1).2.1
  obtain ⟨b1, b2, b3, b4⟩ := nmLoop_spec pcm pol _ t requiredM sel rem hwf a2
  -- the loop selected no more pairs than there are entries, so `restore_order` hands all of them back
  have hle : sel.length ≤ ((orderSlots r.entries).map (·.1)).length := by
    have := b4.length_eq
    rw [List.length_take, List.length_map] at this
    rw [List.length_map]
    omega
  have a3 : out.Perm sel := by
    rw [a4]
    simpa only [List.length_map] using restoreOrder_perm sel _ hle
  exact ⟨nbWl, requiredM, pcm, t, sel,
    { demand := h1, agg := a1, wf := hwf, loop := b1 ▸ a2, fits := b2, disj := b3, honoured := b4, perm := a3, order := a4
      enough := by
        rw [sumInt_perm (a3.map _)]
        omega
      applied := h5 }⟩

/-! ### histories of calls: the grants and the relation `Served` -/

/-- one granted slot range with the OMS it was put on -/
structure Grant where
  path : List Nat
  n : Int
  m : Int

def grantsOf (r : Request) : Outcome → List Grant
  | .accepted nm => nm.map (fun p => ⟨r.pathOms, p.1, p.2⟩)
  | _ => []

/-- all grants of a history, in order -/
def grants : List Request → List Outcome → List Grant
  | r :: rs, o :: os => grantsOf r o ++ grants rs os
  | _, _ => []

/-- slot `x` of OMS `k` belongs to the grant -/
def Grant.covers (g : Grant) (k : Nat) (x : Int) : Bool :=
  decide (k ∈ g.path) && decide (g.n - g.m ≤ x ∧ x ≤ g.n + g.m - 1)

/-- two grants that share an OMS do not share a slot -/
def Grant.Compatible (g h : Grant) : Prop := (∃ k, k ∈ g.path ∧ k ∈ h.path) → Disj (g.n, g.m) (h.n, h.m)

theorem any_grantsOf_accepted (path : List Nat) (out : List (Int × Int)) (k : Nat) (x : Int) :
    (out.map (fun p => (⟨path, p.1, p.2⟩ : Grant))).any (fun g => g.covers k x) = (decide (k ∈ path) && covers out x) := by
  rw [List.any_map, covers]
  induction out with
  | nil => exact (Bool.and_false _).symm
  | cons p out ih =>
    rw [List.any_cons, List.any_cons, ih, Bool.and_or_distrib_left]
    rfl

/-- what a history that granted `G` has done to the state: every grant was free in the old state, grants that share an
    OMS share no slot, and the new map of every OMS is the old one with exactly the granted slots that cross it occupied.
    Histories compose (`Served.trans`) and keep the state well formed (`Served.stateWF`), which makes this the invariant
    of `pth_assign_spectrum`. -/
structure Served (s s' : List Oms) (G : List Grant) : Prop where
  len : s'.length = s.length
  free : ∀ g ∈ G, 0 < g.m ∧ ∀ k ∈ g.path, ∃ o, s[k]? = some o ∧ RangeOK o.bm g.n g.m
  compat : G.Pairwise Grant.Compatible
  cells : ∀ (k : Nat) (o : Oms), s[k]? = some o →
    ∃ o' : Oms, s'[k]? = some o' ∧ o.bm.Marked o'.bm (fun x => G.any (fun g => g.covers k x))

theorem Served.refl (s : List Oms) : Served s s [] :=
  ⟨rfl, nofun, List.Pairwise.nil, fun k o ho => ⟨o, ho, (Bitmap.Marked.refl o.bm).congr fun x => by simp⟩⟩

/-- `cells`, read from the new state -/
theorem Served.source {s s' : List Oms} {G : List Grant} (h : Served s s' G) {k : Nat} {o' : Oms} (hk : s'[k]? = some o') :
    ∃ o, s[k]? = some o ∧ o.bm.Marked o'.bm (fun x => G.any (fun g => g.covers k x)) := by
  have hk' : k < s.length := h.len ▸ (List.getElem?_eq_some_iff.1 hk).1
  obtain ⟨o'', h1, h2⟩ := h.cells k s[k] (List.getElem?_eq_getElem hk')
  cases hk.symm.trans h1
  exact ⟨_, List.getElem?_eq_getElem hk', h2⟩

theorem Served.stateWF {s s' : List Oms} {G : List Grant} (h : Served s s' G) (hs : StateWF s) : StateWF s' := by
  -- every new map is an old one with other cells, and well formed like it
  have src : ∀ o' ∈ s', ∃ o ∈ s, o'.bm = { o.bm with cells := o'.bm.cells } ∧ o'.bm.WF :=
    fun o' ho' => (List.mem_iff_getElem?.1 ho').elim fun k hk =>
      (h.source hk).imp fun o ho =>
        have hm := List.mem_of_getElem? ho.1
        ⟨hm, ho.2.only_cells, ho.2.wf (hs.wf o hm)⟩
  refine ⟨fun o' ho' => (src o' ho').elim fun _ h => h.2.2, fun o1 h1 o2 h2 => ?_, fun o' ho' => ?_⟩
  · obtain ⟨a, ha, ea, -⟩ := src o1 h1
    obtain ⟨b, hb, eb, -⟩ := src o2 h2
    rw [ea, eb]
    exact hs.same a ha b hb
  · obtain ⟨a, ha, ea, -⟩ := src o' ho'
    rw [ea]
    exact hs.guard a ha

theorem Served.trans {s s1 s' : List Oms} {G1 G2 : List Grant} (A : Served s s1 G1) (B : Served s1 s' G2) :
    Served s s' (G1 ++ G2) := by
  -- a grant of the second history, seen from the first state: free there, and off the slots granted before
  have back : ∀ g ∈ G2, ∀ k ∈ g.path, ∃ o, s[k]? = some o ∧ RangeOK o.bm g.n g.m ∧
      ∀ x, g.n - g.m ≤ x → x ≤ g.n + g.m - 1 → ¬ G1.any (fun g1 => g1.covers k x) = true := by
    intro g hg k hk
    obtain ⟨o1, h1, q⟩ := (B.free g hg).2 k hk
    obtain ⟨o, ho, M⟩ := A.source h1
    exact ⟨o, ho, M.rangeOK q⟩
  refine ⟨B.len.trans A.len, fun g hg => ?_, ?_, fun k o ho => ?_⟩
  · rcases List.mem_append.1 hg with hg | hg
    · exact A.free g hg
    · exact ⟨(B.free g hg).1, fun k hk => (back g hg k hk).imp fun o h => ⟨h.1, h.2.1⟩⟩
  · refine List.pairwise_append.2 ⟨A.compat, B.compat, fun g1 hg1 g2 hg2 ⟨k, hk1, hk2⟩ => ?_⟩
    refine Disj.of_forall (A.free g1 hg1).1 (B.free g2 hg2).1 fun x a b c => (back g2 hg2 k hk2).elim fun _ h => ?_
    exact h.2.2 x a b (List.any_eq_true.2 ⟨g1, hg1, by simpa [Grant.covers, hk1] using c⟩)
  · obtain ⟨o1, h1, M1⟩ := A.cells k o ho
    obtain ⟨o', h', M2⟩ := B.cells k o1 h1
    exact ⟨o', h', (M1.trans M2).congr fun x => by rw [List.any_append, Bool.or_eq_true]⟩

/-! ### completeness: the operations succeed when their preconditions hold -/

theorem aggCells_total (s : List Oms) : ∀ (os : List Nat) (acc : List Cell), (∀ k ∈ os, ∃ o, s[k]? = some o) →
    ∃ r, aggCells s os acc = .ok r := by
  intro os
  induction os with
  | nil => exact fun acc _ => ⟨acc, rfl⟩
  | cons o os ih =>
    intro acc h
    obtain ⟨x, hx⟩ := h o List.mem_cons_self
    unfold aggCells
    rw [hx]
    exact ih _ (fun k hk => h k (List.mem_cons_of_mem _ hk))

theorem aggregate_total {s : List Oms} (hs : StateWF s) {path : List Nat} (hne : path ≠ [])
    (hvalid : ∀ k ∈ path, ∃ o, s[k]? = some o) : ∃ t, aggregate path s = .ok t := by
  cases path with
  | nil => exact absurd rfl hne
  | cons p0 rest =>
    obtain ⟨⟨o0, h0⟩, hrest⟩ := List.forall_mem_cons.1 hvalid
    have hm0 : o0 ∈ s := List.mem_of_getElem? h0
    obtain ⟨cells, hc⟩ := aggCells_total s rest o0.bm.cells hrest
    obtain ⟨c1, -, -⟩ := aggCells_spec (fun o ho => hs.length_cells ho hm0) rfl hc
    simp only [aggregate, h0, hc, Except.ok_bind]
    exact Bitmap.create_some (by decide) (by
      rw [c1, frequencyToN_nToFrequency, frequencyToN_nToFrequency, o0.bm.length_cells (hs.wf o0 hm0)])

/-- a fixed (N, M) whose range is free on the test bitmap is found available -/
theorem determineSlotNumbers_of_rangeOK (b : Bitmap) (hwf : b.WF) (n m : Int) (hm : 0 < m) (h : RangeOK b n m) :
    determineSlotNumbers b n m m = .ok m := by
  classical
  obtain ⟨g1, g2⟩ := h.inGrid hwf hm
  obtain ⟨c, rfl⟩ := (b.index_cases n).resolve_left (by omega)
  rw [determineSlotNumbers, (b.geti_eq_some hwf).2 ⟨rfl, (b.lt_length_iff hwf).2 (by omega)⟩]
  -- two turns of the loop: `m` passes, `2m` exceeds the demand `m` whether it is free or not
  simp only [dsnLoop, centredFree_eq b hwf c m hm, centredFree_eq b hwf c (m + m) (by omega), decide_eq_true h,
    Except.ok_bind, if_true, Int.le_refl, show ¬ (m + m ≤ m) by omega, if_false, Int.add_sub_cancel, ite_self]
  rfl

/-- the final loop of `pth_assign_spectrum` succeeds when the single slot passes the checks of every OMS of the route -/
theorem applyPath_total (n m : Int) (hm : 0 < m) (id : String) (nb : Int) : ∀ (path : List Nat) (s : List Oms), path.Nodup →
    (∀ k ∈ path, ∃ o, s[k]? = some o ∧ o.bm.WF ∧ o.bm.idxMin ≤ n ∧ n ≤ o.bm.idxMax ∧ o.bm.nMin < n - m ∧
      n + m - 1 ≤ o.bm.nMax) → ∃ s', applyPath [(n, m)] id nb path s = .ok s' := by
  intro path
  induction path with
  | nil => exact fun s _ _ => ⟨s, rfl⟩
  | cons p path ih =>
    intro s hnd h
    obtain ⟨o, ho, hwf, c2, c3, c4, c5⟩ := h p List.mem_cons_self
    obtain ⟨b', hb'⟩ := assignSpectrum_of o.bm n m hwf hm c2 c3 c4 c5
    obtain ⟨hpn, hnd'⟩ := List.nodup_cons.1 hnd
    simp only [applyPath, ho, applyOms, List.foldlM_cons, List.foldlM_nil, hb', Except.ok_bind, Except.pure_eq_ok]
    apply ih _ hnd'
    intro k hk
    obtain ⟨o', ho', rest⟩ := h k (List.mem_cons_of_mem _ hk)
    have hkp : p ≠ k := fun e => hpn (e ▸ hk)
    exact ⟨o', by rw [List.getElem?_set_ne hkp]; exact ho', rest⟩

end Gnpy.Slots
