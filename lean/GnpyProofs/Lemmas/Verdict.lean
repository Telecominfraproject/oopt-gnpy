import GnpyModel.Verdict
import GnpyProofs.Lemmas.Db
import GnpyProofs.Lemmas.ListIdioms
/- The numeric part of GnpyModel/Verdict.lean (C13) over ℝ.  The receiver's SNR bookkeeping: `update_snr` adds, in the
   linear domain, the sum `linSum` of the contributions that are present.  Penalties: `_calc_penalty` is the
   interpolation `interpFrom` from the first boundary on, a sum of penalties is infinite iff one of them is, and the
   penalty tables as loaded are sorted (`sortAsc` is an insertion sort) with (0, 0) put in front of positive boundaries. -/
namespace Gnpy.Verdict

/-! ### the receiver's SNR bookkeeping (`snr_sum`, `update_snr`) -/

noncomputable def linSum : List (Option ℝ) → ℝ
  | [] => 0
  | none :: rest => linSum rest
  | some v :: rest => db2lin (-v) + linSum rest

theorem linSum_eq_sum : ∀ args : List (Option ℝ), linSum args = (args.map fun o => o.elim 0 fun v => db2lin (-v)).sum
  | [] => rfl
  | none :: rest | some _ :: rest => by simp [linSum, linSum_eq_sum rest]

theorem foldl_addStep (args : List (Option ℝ)) (acc : ℝ) :
    args.foldl addStep acc = acc + linSum args := by
  induction args generalizing acc with
  | nil => simp [linSum]
  | cons a rest ih => cases a <;> simp [linSum, addStep, ih, add_assoc]

theorem addedLin_eq (args : List (Option ℝ)) : addedLin args = linSum args := by
  rw [addedLin, foldl_addStep, Nat.cast_zero, zero_add]

theorem linSum_append (a b : List (Option ℝ)) : linSum (a ++ b) = linSum a + linSum b := by
  simp only [linSum_eq_sum, List.map_append, List.sum_append]

theorem linSum_pos_of_mem (args : List (Option ℝ)) (v : ℝ) (h : some v ∈ args) : 0 < linSum args := by
  rw [linSum_eq_sum]
  -- no summand is negative, and the one of `some v` is positive
  have h0 : ∀ x ∈ args.map (fun o => o.elim 0 fun v => db2lin (-v)), 0 ≤ x :=
    List.forall_mem_map.2 fun o _ => by cases o <;> simp [(db2lin_pos _).le]
  exact (db2lin_pos (-v)).trans_le (List.single_le_sum h0 _ (List.mem_map.2 ⟨some v, h, rfl⟩))

theorem bwRef_pos : (0:ℝ) < bwRef := by simp [bwRef]

/-- `snr_sum` in the linear domain -/
theorem snrSum_lin (snr bw a : ℝ) (hbw : 0 < bw) :
    db2lin (-(snrSum snr bw a)) = db2lin (-snr) + bw / bwRef * db2lin (-a) := by
  simp only [snrSum]
  rw [neg_neg, db2lin_lin2db (add_pos (db2lin_pos _) (db2lin_pos _)), neg_sub, sub_eq_add_neg, db2lin_add,
    db2lin_lin2db (div_pos hbw bwRef_pos)]

theorem snrAdded_lin (args : List (Option ℝ)) (h : 0 < linSum args) : db2lin (-(snrAdded args)) = linSum args := by
  simp only [snrAdded, neg_neg, addedLin_eq]
  exact db2lin_lin2db h

/-! ### penalties (`_calc_penalty`, `calc_penalties`) -/

/-- at or above the first boundary `_calc_penalty` is the interpolation (an empty table blocks either way) -/
theorem interpPenalty_eq_interpFrom (x : ℝ) (t : List (ℝ × ℝ)) (h : ∀ p, t.head? = some p → p.1 ≤ x) :
    interpPenalty x t = interpFrom x t := by
  match t with
  | [] => rfl
  | (a, fa) :: rest => exact if_neg (h (a, fa) rfl).not_gt

theorem interpFrom_above (x : ℝ) : ∀ t : List (ℝ × ℝ), (∀ p ∈ t, p.1 < x) → interpFrom x t = Pen.inf
  | [], _ => rfl
  | [(a, fa)], h => if_pos (h (a, fa) List.mem_cons_self)
  | (a, fa) :: (b, fb) :: rest, h => by
    rw [interpFrom, if_neg (h (b, fb) (by simp)).le.not_gt]
    exact interpFrom_above x _ fun p hp => h p (List.mem_cons_of_mem _ hp)

theorem interpFrom_inside (x : ℝ) : ∀ t : List (ℝ × ℝ), t.Pairwise (fun p q => p.1 ≤ q.1) → (∃ p ∈ t, x ≤ p.1) →
    ∃ v, interpFrom x t = Pen.fin v
  | [], _, ⟨p, hp, _⟩ => absurd hp List.not_mem_nil
  | [(a, fa)], _, ⟨p, hp, hx⟩ => by
    obtain rfl := List.mem_singleton.1 hp
    exact ⟨fa, if_neg hx.not_gt⟩
  | (a, fa) :: (b, fb) :: rest, hs, ⟨p, hp, hx⟩ => by
    rw [interpFrom]
    split_ifs with hxb hax
    · exact ⟨_, rfl⟩
    · exact ⟨_, rfl⟩
    · refine interpFrom_inside x _ hs.of_cons ?_
      rcases List.mem_cons.1 hp with rfl | hp
      · exact ⟨(b, fb), List.mem_cons_self, hx.trans (List.rel_of_pairwise_cons hs List.mem_cons_self)⟩
      · exact ⟨p, hp, hx⟩

theorem foldl_add_eq_inf (ps : List (Pen ℝ)) (p : Pen ℝ) :
    ps.foldl Pen.add p = Pen.inf ↔ p = Pen.inf ∨ Pen.inf ∈ ps := by
  induction ps generalizing p with
  | nil => simp
  | cons q rest ih =>
    rw [List.foldl_cons, ih, List.mem_cons]
    cases p <;> cases q <;> simp [Pen.add] -- a sum of two penalties is infinite iff one of them is

/-! ### the penalty tables as loaded (`Transceiver.__init__` of json_io) -/

theorem sortAsc_perm (l : List (ℝ × ℝ)) : (sortAsc l).Perm l := by
  rw [sortAsc_eq]; exact List.perm_insertionSort _ l

theorem sortAsc_sorted (l : List (ℝ × ℝ)) : (sortAsc l).Pairwise (fun p q => p.1 ≤ q.1) := by
  rw [sortAsc_eq]
  simp only [not_lt]
  exact List.pairwise_insertionSort _ l

theorem normalise_eq (entries : List (ℝ × ℝ)) :
    normalise entries = sortAsc (if ∀ e ∈ entries, 0 < e.1 then (0, 0) :: entries else entries) := by
  simp only [normalise, Nat.cast_zero, List.all_eq_true, decide_eq_true_eq]

end Gnpy.Verdict
