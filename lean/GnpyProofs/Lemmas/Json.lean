import GnpyModel.Json
/- The association-list lemmas for the Python-dict view of JSON objects (`Dict` of GnpyModel/Json.lean), for C18 (C20
   meets `Dict` only as literal rows and evaluates `get?` on them by plain `simp`, without this file).  Every lookup is
   brought to `get?`: `simp` with this file's simp set computes `get?` after `set`/`erase` and rewrites `has` to it; the
   raising lookup `Dict.get` is unfolded (`simp [Dict.get]`) where `simp` then computes the `get?` (a literal dict, a
   dict after `set`/`erase`), and goes through `get_eq_ok` where the `get?` equation is a hypothesis.  A lookup with a
   literal key in a literal list is decided by the `String.reduceBEq`/`String.reduceEq` simprocs of the default simp
   set.
   Trap: `simp only [Dict.get?]` (no simprocs) on a list with literal keys leaves `"a" == "b"` to `Decidable.decide` on
   `String.decEq`, which `whnf` evaluates byte by byte.  Use `simp [...]`, or name the simprocs. -/
namespace Gnpy

namespace Dict

@[simp] theorem get?_nil (k : String) : get? [] k = none := rfl

@[simp] theorem get?_cons (k' : String) (v : J) (t : Dict) (k : String) :
    get? ((k', v) :: t) k = if k' == k then some v else get? t k := rfl

@[simp] theorem get?_set (d : Dict) (k k' : String) (v : J) :
    (d.set k v).get? k' = if k' = k then some v else d.get? k' := by
  simp only [eq_comm (a := k')]
  -- the three cases of `set` (empty, head key is `k`, head key is not), each split on `k = k'`
  fun_induction set d k v <;> split <;> simp_all

@[simp] theorem get?_erase (d : Dict) (k k' : String) :
    (d.erase k).get? k' = if k' = k then none else d.get? k' := by
  simp only [eq_comm (a := k')]
  -- as for `get?_set`
  fun_induction erase d k <;> split <;> simp_all

@[simp] theorem has_eq_isSome (d : Dict) (k : String) : d.has k = (d.get? k).isSome := by
  fun_induction get? d k <;> simp_all [has]

theorem not_has_iff (d : Dict) (k : String) : (!d.has k) = true ↔ d.get? k = none := by
  rw [has_eq_isSome, Bool.not_eq_true', Option.isSome_eq_false_iff, Option.isNone_iff_eq_none]

/-- `d[k]` returns `v` exactly when `d.get(k)` finds it -/
theorem get_eq_ok {d : Dict} {k : String} {v : J} : d.get k = .ok v ↔ d.get? k = some v := by
  unfold get
  split <;> simp [*, keyError, pure, Except.pure]

/-- `d[k] = d[k]` changes nothing, not even the key order -/
theorem set_same {d : Dict} {k : String} {v : J} (h : d.get? k = some v) : d.set k v = d := by
  fun_induction set d k v <;> simp_all

theorem erase_of_get?_none {d : Dict} {k : String} (h : d.get? k = none) : d.erase k = d := by
  fun_induction erase d k <;> simp_all

theorem set_append_of_get?_none {d : Dict} {k : String} (v : J) (h : d.get? k = none) :
    d.set k v = d ++ [(k, v)] := by
  fun_induction set d k v <;> simp_all

theorem get?_none_iff_not_mem_keys (d : Dict) (k : String) : d.get? k = none ↔ k ∉ d.map (·.1) := by
  induction d with
  | nil => simp
  | cons kv t ih =>
    obtain ⟨k0, v0⟩ := kv
    by_cases h1 : k0 = k
    · simp [h1]
    · simp [h1, ih, Ne.symm h1]

theorem set_ne_nil (d : Dict) (k : String) (v : J) : d.set k v ≠ [] := by
  fun_cases set d k v <;> simp

/-- assigning entries whose keys are new and distinct, one after the other, appends them in order -/
theorem foldl_set_of_nodup : ∀ (ts pre : Dict), ((pre ++ ts).map (·.1)).Nodup →
    ts.foldl (fun acc kv => acc.set kv.1 kv.2) pre = pre ++ ts
  | [], pre, _ => by simp
  | (k, v) :: ts, pre, h => by
    have hk : k ∉ pre.map (·.1) := fun hmem => by
      simp only [List.map_append, List.map_cons] at h
      exact (List.nodup_append.1 h).2.2 k hmem k (by simp) rfl
    rw [List.foldl_cons, set_append_of_get?_none v ((get?_none_iff_not_mem_keys pre k).2 hk),
      foldl_set_of_nodup ts _ (by simpa using h), List.append_assoc, List.singleton_append]

end Dict
end Gnpy
