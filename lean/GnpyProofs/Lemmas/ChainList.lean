import GnpyModel
import Mathlib.Data.List.SplitBy
/-
Helper lemmas (discrete) for the chain model (Model: GnpyModel/Chain.lean): amplifier insertion as list
transformation (`InsertsAmps`); length, glass loss and connectors of a line element; the graph view of chains (degrees
in a path); the kind of an element (`Elem.kind`), which is all that the splicing into runs reads.
-/
namespace Gnpy

theorem apply_getLast_of_map_eq {β γ : Type} {f : β → γ} {l l' : List β} (h : l.map f = l'.map f) (hl : l ≠ [])
    (hl' : l' ≠ []) : f (l.getLast hl) = f (l'.getLast hl') := by
  have := List.getLast_congr (by simpa using hl) (by simpa using hl') h
  rwa [List.getLast_map, List.getLast_map] at this

theorem apply_head_of_map_eq {β γ : Type} {f : β → γ} {l l' : List β} (h : l.map f = l'.map f) (hl : l ≠ [])
    (hl' : l' ≠ []) : f (l.head hl) = f (l'.head hl') := by
  have : (l.map f).head (by simpa using hl) = (l'.map f).head (by simpa using hl') := by
    simp only [h]
  rwa [List.head_map, List.head_map] at this

end Gnpy

namespace Gnpy.Chain

section
-- the model is polymorphic in the scalar type (`Float` in the driver, `ℝ` in the proofs) and these facts hold for every
-- one: they take the model's `variable` block as it stands, whichever of the instances a statement needs
set_option linter.unusedSectionVars false
variable {α : Type} [Add α] [Sub α] [Mul α] [Div α] [Neg α] [NatCast α] [LT α] [LE α]
  [DecidableLT α] [DecidableLE α] [Transc α]

/-! ### add_roadm_preamp / add_roadm_booster / add_inline_amplifier -/

/-- no fibre is directly followed by a fibre -/
def NoAdjFib (l : List (Elem α)) : Prop :=
  List.IsChain (fun a b => ¬ (a.isFiber = true ∧ b.isFiber = true)) l

theorem eq_fiber_of_isFiber {e : Elem α} (h : e.isFiber = true) : ∃ u p, e = .fiber u p := by
  cases e with
  | fiber u p => exact ⟨u, p, rfl⟩
  | _ => cases h

theorem isMulti_isSingle_of_not_isEdfa {e : Elem α} (h : e.isEdfa = false) : e.isMulti = false ∧ e.isSingle = false := by
  cases e with
  | edfa _ _ => cases h
  | _ => exact ⟨rfl, rfl⟩

theorem addInline_head (m : Bool) (l : List (Elem α)) : (addInline m l).head? = l.head? := by
  fun_induction addInline m l <;> rfl

theorem addInline_noAdj {m : Bool} {l : List (Elem α)} : NoAdjFib (addInline m l) := by
  fun_induction addInline m l with
  | case1 => exact .nil
  | case2 u p v q t ih => exact .cons_cons (by simp [Elem.isFiber]) (.cons ih fun y _ => by simp [Elem.isFiber])
  | case3 x rest h ih =>
    -- `h`: the first alternative of `addInline` did not fire, i.e. `x :: rest` does not begin with two fibres
    refine .cons ih fun y hy ⟨hx, hyf⟩ => ?_
    rw [addInline_head] at hy
    obtain ⟨u, p, rfl⟩ := eq_fiber_of_isFiber hx
    obtain ⟨v, q, rfl⟩ := eq_fiber_of_isFiber hyf
    obtain ⟨t, rfl⟩ := List.head?_eq_some_iff.1 hy
    exact h _ _ _ _ _ rfl rfl

theorem addInline_getLast (m : Bool) (l : List (Elem α)) : (addInline m l).getLast? = l.getLast? := by
  fun_induction addInline m l with
  | case1 => rfl
  | case2 u p v q t ih => simp only [List.getLast?_cons, ih, Option.getD_some]
  | case3 x rest h ih => rw [List.getLast?_cons, List.getLast?_cons, ih]

theorem addBooster_getLast (src : String) (sk : EndKind) (m : Bool) (l : List (Elem α)) :
    (addBooster src sk m l).getLast? = l.getLast? := by
  unfold addBooster
  split
  · exact List.getLast?_cons_cons
  · rfl

theorem addBooster_head_not_fiber {src : String} {m : Bool} {l : List (Elem α)} {e : Elem α}
    (he : (addBooster src .roadm m l).head? = some e) : e.isFiber = false := by
  cases l with
  | nil => cases he
  | cons x t => cases x <;> cases he <;> rfl

theorem addPreamp_getLast_not_fiber {dst : String} {m : Bool} {l : List (Elem α)} {e : Elem α}
    (he : (addPreamp dst .roadm m l).getLast? = some e) : e.isFiber = false := by
  unfold addPreamp at he
  split at he
  · -- a fibre was last: the preamp is last now
    rw [List.getLast?_concat] at he
    cases he
    rfl
  · next hl =>
    -- nothing was appended because the last element is no fibre
    cases e with
    | fiber u p => exact (hl _ _ rfl he).elim
    | _ => rfl

/-- nothing is inserted at a transceiver end, nor when the neighbour of the ROADM is not a fibre (Fused, user
amplifier) -/
theorem addBooster_eq_self {src : String} {sk : EndKind} {m : Bool} {l : List (Elem α)}
    (h : sk = .roadm → ∀ e, l.head? = some e → e.isFiber = false) : addBooster src sk m l = l := by
  unfold addBooster
  split
  · exact absurd (h rfl _ rfl) (by simp [Elem.isFiber])
  · rfl

/-- nothing is appended at a transceiver end, nor when the last element before the ROADM is not a fibre (Fused, user
amplifier) -/
theorem addPreamp_eq_self {dst : String} {dk : EndKind} {m : Bool} {l : List (Elem α)}
    (h : dk = .roadm → ∀ e, l.getLast? = some e → e.isFiber = false) : addPreamp dst dk m l = l := by
  unfold addPreamp
  split
  · next hl => exact absurd (h rfl _ hl) (by simp [Elem.isFiber])
  · rfl

/-- the names `add_inline_amplifier` generates on a line -/
def inlineNames : List (Elem α) → List String
  | [] => []
  | x :: rest =>
    match x, rest with
    | .fiber u _, .fiber _ _ :: _ => inlineName u :: inlineNames rest
    | _, _ => inlineNames rest

theorem addInline_uids (m : Bool) (l : List (Elem α)) :
    ((addInline m l).map Elem.uid).Perm (l.map Elem.uid ++ inlineNames l) := by
  fun_induction addInline m l with
  | case1 => exact .nil
  | case2 u p v q t ih => exact .cons _ ((ih.cons _).trans List.perm_middle.symm)
  | case3 x rest h ih =>
    rw [inlineNames]
    · exact ih.cons _
    · exact h

/-- no amplifier (Edfa or Multiband_amplifier) on the line -/
def NoAmp (l : List (Elem α)) : Prop := ∀ e ∈ l, e.isEdfa = false

theorem hasMulti_hasSingle_of_noAmp {l : List (Elem α)} (h : NoAmp l) :
    hasMulti l = false ∧ hasSingle l = false := by
  simp only [hasMulti, hasSingle, List.any_eq_false, Bool.not_eq_true]
  exact ⟨fun e he => (isMulti_isSingle_of_not_isEdfa (h e he)).1, fun e he => (isMulti_isSingle_of_not_isEdfa (h e he)).2⟩

/-- `l'` is `l` with amplifiers of kind `m` inserted: what every step of `add_missing_elements_in_network` after the
split does -/
structure InsertsAmps (m : Bool) (l l' : List (Elem α)) : Prop where
  sublist : l.Sublist l'
  mem : ∀ e ∈ l', e ∈ l ∨ (e.isEdfa = true ∧ e.isMulti = m)

theorem InsertsAmps.refl (m : Bool) (l : List (Elem α)) : InsertsAmps m l l := ⟨.refl _, fun _ h => .inl h⟩

theorem InsertsAmps.trans {m : Bool} {l₁ l₂ l₃ : List (Elem α)} (h₁ : InsertsAmps m l₁ l₂) (h₂ : InsertsAmps m l₂ l₃) :
    InsertsAmps m l₁ l₃ :=
  ⟨h₁.sublist.trans h₂.sublist, fun e he => (h₂.mem e he).elim (h₁.mem e) .inr⟩

theorem InsertsAmps.cons {m : Bool} {l l' : List (Elem α)} (h : InsertsAmps m l l') (x : Elem α) :
    InsertsAmps m (x :: l) (x :: l') :=
  ⟨h.sublist.cons_cons x, fun e he => (List.mem_cons.1 he).elim (fun h => .inl (h ▸ List.mem_cons_self))
    fun he => (h.mem e he).imp_left (List.mem_cons_of_mem _)⟩

theorem InsertsAmps.insert {m : Bool} {l l' : List (Elem α)} (h : InsertsAmps m l l') (u : String) :
    InsertsAmps m l (.edfa u (newAmp m) :: l') :=
  ⟨h.sublist.cons _, fun e he => (List.mem_cons.1 he).elim (fun h => .inr (h ▸ ⟨rfl, rfl⟩)) (h.mem e)⟩

theorem addInline_inserts {m : Bool} {l : List (Elem α)} : InsertsAmps m l (addInline m l) := by
  fun_induction addInline m l with
  | case1 => exact .refl m []
  | case2 u p v q t ih => exact (ih.insert _).cons _
  | case3 x rest h ih => exact ih.cons _

theorem addBooster_inserts {src : String} {sk : EndKind} {m : Bool} {l : List (Elem α)} :
    InsertsAmps m l (addBooster src sk m l) := by
  unfold addBooster
  split
  · exact (InsertsAmps.refl m _).insert _
  · exact .refl m l

theorem addPreamp_inserts {dst : String} {dk : EndKind} {m : Bool} {l : List (Elem α)} :
    InsertsAmps m l (addPreamp dst dk m l) := by
  unfold addPreamp
  split
  · exact ⟨List.sublist_append_left _ _, fun e he => (List.mem_append.1 he).imp_right
      fun h => by rw [List.mem_singleton.1 h]; exact ⟨rfl, rfl⟩⟩
  · exact .refl m l

theorem addMissingLine_inserts (c : SplitCfg α) (ch : Chain α) :
    InsertsAmps (omsKind ch.srcKind ch.srcBands (splitLine c ch.line)) (splitLine c ch.line) (addMissingLine c ch) :=
  (addPreamp_inserts.trans addBooster_inserts).trans addInline_inserts

/-! ### split_fiber, add_connector_loss: what the elements of a line carry

(`Elem.length`, `Elem.glass` here; `Elem.body`, which is stated over ℝ, with the `_span_params` lemmas of ChainReal.lean) -/

/-- length of a line element (0 for anything but a fibre) -/
def Elem.length : Elem α → α
  | .fiber _ p => p.length
  | _ => ((0:Nat) : α)

/-- attenuation of the glass of a line element (0 for anything but a fibre) -/
def Elem.glass : Elem α → α
  | .fiber _ p => p.glassLoss
  | _ => ((0:Nat) : α)

/-- a fibre carries both connector losses (what `add_connector_loss` leaves) -/
def ConnOK : Elem α → Prop
  | .fiber _ p => p.conIn.isSome = true ∧ p.conOut.isSome = true
  | _ => True

/-- every fibre has both connector losses after `add_connector_loss` -/
theorem connectors_defined (dIn dOut eol : α) (l : List (Elem α)) :
    ∀ e ∈ addConn dIn dOut eol l, ConnOK e := by
  induction l with
  | nil => exact fun _ h => nomatch h
  | cons x rest ih =>
    simp only [addConn, List.forall_mem_cons]
    refine ⟨?_, ih⟩
    cases x with
    | fiber u p => exact ⟨rfl, rfl⟩
    | _ => trivial

theorem addConn_kinds (dIn dOut eol : α) (l : List (Elem α)) :
    (addConn dIn dOut eol l).map Elem.uid = l.map Elem.uid := by
  induction l with
  | nil => simp [addConn]
  | cons x rest ih =>
    simp only [addConn, List.map_cons, ih]
    cases x <;> simp [Elem.uid]

end

/-! ### the graph view: degrees are occurrence counts in the node sequences of the chains -/

theorem map_fst_pathEdges : ∀ ns : List String, (pathEdges ns).map Prod.fst = ns.dropLast
  | [] | [_] => rfl
  | a :: b :: rest => by rw [pathEdges, List.map_cons, map_fst_pathEdges (b :: rest), List.dropLast_cons_cons]

theorem map_snd_pathEdges : ∀ ns : List String, (pathEdges ns).map Prod.snd = ns.tail
  | [] | [_] => rfl
  | a :: b :: rest => by rw [pathEdges, List.map_cons, map_snd_pathEdges (b :: rest)]; rfl

theorem outDeg_eq_count (g : List (String × String)) (u : String) : outDeg g u = (g.map Prod.fst).count u := by
  rw [outDeg, List.count, List.countP_map]; rfl

theorem inDeg_eq_count (g : List (String × String)) (u : String) : inDeg g u = (g.map Prod.snd).count u := by
  rw [inDeg, List.count, List.countP_map]; rfl

theorem toGraph_append {α : Type} (a b : List (Chain α)) : toGraph (a ++ b) = toGraph a ++ toGraph b := by
  simp [toGraph]

theorem toGraph_cons {α : Type} (c : Chain α) (b : List (Chain α)) : toGraph (c :: b) = chainEdges c ++ toGraph b := by
  simp [toGraph]

theorem inDeg_append (g h : List (String × String)) (u : String) : inDeg (g ++ h) u = inDeg g u + inDeg h u := by
  simp [inDeg]

theorem outDeg_append (g h : List (String × String)) (u : String) : outDeg (g ++ h) u = outDeg g u + outDeg h u := by
  simp [outDeg]

theorem outDeg_chainEdges {α : Type} (c : Chain α) (u : String) :
    outDeg (chainEdges c) u = (c.src :: c.line.map Elem.uid).count u := by
  rw [outDeg_eq_count, chainEdges, map_fst_pathEdges, chainNodes, ← List.cons_append, List.dropLast_concat]

theorem inDeg_chainEdges {α : Type} (c : Chain α) (u : String) :
    inDeg (chainEdges c) u = (c.line.map Elem.uid ++ [c.dst]).count u := by
  rw [inDeg_eq_count, chainEdges, map_snd_pathEdges, chainNodes, List.tail_cons]

theorem deg_zero_of_absent {α : Type} (cs : List (Chain α)) (u : String) (h : ∀ c ∈ cs, u ∉ chainNodes c) :
    inDeg (toGraph cs) u = 0 ∧ outDeg (toGraph cs) u = 0 := by
  induction cs with
  | nil => exact ⟨rfl, rfl⟩
  | cons c rest ih =>
    have hc := h c List.mem_cons_self
    obtain ⟨hi, ho⟩ := ih fun x hx => h x (List.mem_cons_of_mem _ hx)
    rw [toGraph_cons, inDeg_append, outDeg_append, hi, ho, outDeg_chainEdges, inDeg_chainEdges,
      List.count_eq_zero_of_not_mem fun hm => hc (List.mem_cons_of_mem _ hm),
      List.count_eq_zero_of_not_mem fun hm => hc (List.cons_subset_cons _ (List.subset_append_left _ _) hm)]
    exact ⟨rfl, rfl⟩

/-! ### runs of spliced passive elements: `joined` reads the kinds of its arguments only -/

/-- Fiber, Fused or Edfa: all that `joined` and the case distinction of `padRun` read of an element -/
inductive Kind
  | fiber | fused | edfa
  deriving DecidableEq

def Elem.kind {α : Type} : Elem α → Kind
  | .fiber _ _ => .fiber
  | .fused _ _ => .fused
  | .edfa _ _ => .edfa

section
-- for every scalar type of the model, as above
set_option linter.unusedSectionVars false
variable {α : Type} [Add α] [Sub α] [Mul α] [Div α] [Neg α] [NatCast α] [LT α] [LE α]
  [DecidableLT α] [DecidableLE α] [Transc α]

/-- whether two neighbours are spliced into one run depends on their kinds only -/
theorem joined_eq (a b : Elem α) :
    joined a b = ((a.kind == .fused && b.kind != .edfa) || (a.kind != .edfa && b.kind == .fused)) := by
  cases a <;> cases b <;> rfl

theorem joined_kind {a b a' b' : Elem α} (ha : a.kind = a'.kind) (hb : b.kind = b'.kind) :
    joined a b = joined a' b' := by
  rw [joined_eq, joined_eq, ha, hb]

/-- whether a list is one spliced run depends on the kinds of its elements only -/
theorem isChain_joined_iff (l : List (Elem α)) :
    l.IsChain (fun x y => joined x y = true) ↔
      (l.map Elem.kind).IsChain (fun i j => ((i == .fused && j != .edfa) || (i != .edfa && j == .fused)) = true) := by
  simp only [List.isChain_map, joined_eq]

end

end Gnpy.Chain
