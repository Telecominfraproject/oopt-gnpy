import GnpyModel.Response
import GnpyProofs.RealInst
import Mathlib.Data.List.Induction
/- `requests_aggregation` (model: GnpyModel/Response.lean).  Without disjunctions (C19): the invariant `Inv` that every
   turn of its loop keeps.  With disjunctions (C12, through Lemmas/Sync.lean): the partner sets `othersOf`, their
   comparison `sameSet`/`sameDisj`, what the inner loop `absorbIntoD` found, `renameIn`; with an empty disjunction list
   this variant is the plain aggregation. -/
namespace Gnpy

/-- a key without repetition on `l`: filtering out the key of a member removes that member and nothing else -/
theorem perm_cons_filter_key_ne {α β : Type} [BEq β] [LawfulBEq β] (key : α → β) {l : List α} {a : α} (hmem : a ∈ l)
    (hnd : (l.map key).Nodup) : l.Perm (a :: l.filter (fun x => key x != key a)) := by
  induction l with
  | nil => cases hmem
  | cons x xs ih =>
    obtain ⟨hx, hnd⟩ := List.nodup_cons.1 hnd
    rcases List.mem_cons.1 hmem with rfl | h
    · rw [List.filter_cons_of_neg (by simp),
        List.filter_eq_self.2 fun y hy => by simpa using fun he => hx (List.mem_map.2 ⟨y, hy, he⟩)]
    · have hne : key x ≠ key a := fun he => hx (List.mem_map.2 ⟨a, h, he.symm⟩)
      rw [List.filter_cons_of_pos (by simpa using hne)]
      exact ((ih h hnd).cons x).trans (List.Perm.swap a x _)

end Gnpy
namespace Gnpy.Response

/-! ## requests_aggregation -/

variable {κ : Type} [DecidableEq κ]

/-- all id components of a request list, in order -/
def allParts (l : List (AReq κ ℝ)) : List String := l.flatMap (·.parts)
/-- the bandwidth of a request list -/
def totalBw (l : List (AReq κ ℝ)) : ℝ := (l.map (·.bw)).sum

theorem absorbInto_split (req : AReq κ ℝ) (l l' : List (AReq κ ℝ)) (h : absorbInto req l = some l') :
    ∃ pre t post, l = pre ++ t :: post ∧ l' = pre ++ absorb t req :: post ∧
      req.idStr ≠ t.idStr ∧ req.key = t.key ∧ t.hasMode = true ∧
      ∀ u ∈ pre, ¬ (req.idStr ≠ u.idStr ∧ req.key = u.key ∧ u.hasMode = true) := by
  induction l generalizing l' with
  | nil => cases h
  | cons t rest ih =>
    rw [absorbInto] at h
    split_ifs at h with hc
    · obtain rfl := Option.some.inj h
      exact ⟨[], t, rest, rfl, rfl, hc.1, hc.2.1, hc.2.2, nofun⟩
    · obtain ⟨r', hr, rfl⟩ := Option.map_eq_some_iff.1 h
      obtain ⟨pre, t', post, rfl, rfl, h3, h4, h5, h6⟩ := ih r' hr
      exact ⟨t :: pre, t', post, rfl, rfl, h3, h4, h5, List.forall_mem_cons.2 ⟨hc, h6⟩⟩

/-- per-request invariant: the bandwidth, N and M of an (aggregated) request are those of its components -/
def Consistent (bw0 : String → ℝ) (n0 m0 : String → List (Option Int)) (r : AReq κ ℝ) : Prop :=
  r.bw = (r.parts.map bw0).sum ∧ r.n = r.parts.flatMap n0 ∧ r.m = r.parts.flatMap m0

omit [DecidableEq κ] in
theorem absorb_consistent (bw0 : String → ℝ) (n0 m0 : String → List (Option Int)) (t req : AReq κ ℝ)
    (ht : Consistent bw0 n0 m0 t) (hr : Consistent bw0 n0 m0 req) : Consistent bw0 n0 m0 (absorb t req) := by
  simp only [Consistent, absorb, List.map_append, List.sum_append, List.flatMap_append, ht.1, ht.2.1, ht.2.2, hr.1,
    hr.2.1, hr.2.2, and_self]

/-- what every turn of the aggregation loop keeps true of the current list `l`, `orig` being the list it started from:
distinct positions, the id components and the total bandwidth of `orig`, every request consistent with its components -/
structure Inv (bw0 : String → ℝ) (n0 m0 : String → List (Option Int)) (orig l : List (AReq κ ℝ)) : Prop where
  nodup : (l.map (·.pos)).Nodup
  parts : (allParts l).Perm (allParts orig)
  bw : totalBw l = totalBw orig
  cons : ∀ r ∈ l, Consistent bw0 n0 m0 r

/-- one turn of the loop leaves the list as it is, or the member at position `i` is absorbed by a member with another id
and then filtered out -/
theorem aggStep_cases (l : List (AReq κ ℝ)) (i : Nat) :
    aggStep l i = l ∨ ∃ req pre t post, req ∈ l ∧ req.pos = i ∧ l = pre ++ t :: post ∧ req.idStr ≠ t.idStr ∧
      aggStep l i = (pre ++ absorb t req :: post).filter (fun r => r.pos != i) := by
  unfold aggStep
  split
  · exact .inl rfl
  next req hf =>
    split
    · exact .inl rfl
    next l' ha =>
      obtain ⟨pre, t, post, hl, rfl, hid, -⟩ := absorbInto_split req _ l' ha
      exact .inr ⟨req, pre, t, post, List.mem_of_find?_eq_some hf, by simpa using List.find?_some hf, hl, hid, rfl⟩

open scoped List in
theorem aggStep_inv (bw0 : String → ℝ) (n0 m0 : String → List (Option Int)) (orig l : List (AReq κ ℝ)) (i : Nat)
    (h : Inv bw0 n0 m0 orig l) : Inv bw0 n0 m0 orig (aggStep l i) := by
  obtain h0 | ⟨req, pre, t, post, hreq, rfl, rfl, hid, h0⟩ := aggStep_cases l i <;> rw [h0]
  · exact h
  · -- the positions are those of `l`, so the filter removes `req` (which is not `t`: the ids differ) and nothing else
    have hnd : ((pre ++ absorb t req :: post).map (·.pos)).Nodup := by simpa [absorb] using h.nodup
    have hreq' : req ∈ pre ++ absorb t req :: post := by
      rcases List.mem_append.1 hreq with hm | hm
      · exact List.mem_append_left _ hm
      · refine List.mem_append_right _ (List.mem_cons_of_mem _ ((List.mem_cons.1 hm).resolve_left fun he => ?_))
        exact hid (he ▸ rfl)
    have hperm := perm_cons_filter_key_ne (·.pos) hreq' hnd
    refine ⟨hnd.sublist (List.filter_sublist.map _), ?_, ?_, fun r hr => ?_⟩
    · have h1 : allParts (pre ++ absorb t req :: post) ~ allParts (pre ++ t :: post) ++ req.parts := by
        simp only [allParts, List.flatMap_append, List.flatMap_cons, absorb, List.append_assoc]
        exact (List.perm_append_comm.append_left _).append_left _
      have h2 := calc
        req.parts ++ allParts ((pre ++ absorb t req :: post).filter fun r => r.pos != req.pos)
          ~ allParts (pre ++ absorb t req :: post) := (hperm.flatMap_right _).symm
        _ ~ allParts (pre ++ t :: post) ++ req.parts := h1
        _ ~ req.parts ++ allParts (pre ++ t :: post) := List.perm_append_comm
      exact ((List.perm_append_left_iff req.parts).1 h2).trans h.parts
    · have h1 := (hperm.map (·.bw)).sum_eq
      have h2 := h.bw
      simp only [totalBw, List.map_append, List.map_cons, List.sum_append, List.sum_cons, absorb] at h1 h2 ⊢
      linear_combination h2 - h1
    · rcases List.mem_append.1 (List.mem_filter.1 hr).1 with hm | hm
      · exact h.cons r (List.mem_append_left _ hm)
      · rcases List.mem_cons.1 hm with rfl | hm
        · exact absorb_consistent bw0 n0 m0 t req (h.cons t (by simp)) (h.cons req hreq)
        · exact h.cons r (List.mem_append_right _ (List.mem_cons_of_mem _ hm))

/-! ## requests_aggregation with disjunctions -/

theorem othersOf_concat (ds : List Disj) (d : Disj) (rid : String) :
    othersOf (ds ++ [d]) rid = (othersOf ds rid ++ d.reqs).erase rid := by
  simp [othersOf]

theorem mem_othersOf {rid y : String} (hy : y ≠ rid) (ds : List Disj) :
    y ∈ othersOf ds rid ↔ ∃ d ∈ ds, y ∈ d.reqs := by
  induction ds using List.reverseRecOn with
  | nil => simp [othersOf]
  | append_singleton ds d ih =>
    simp only [othersOf_concat, List.mem_erase_of_ne hy, List.mem_append, ih, List.mem_singleton, or_and_right,
      exists_or, exists_eq_left]

/-- every vector contributes `rid` at most once, and one `rid` is removed per vector -/
theorem not_mem_othersOf_self (rid : String) (ds : List Disj) (hnd : ∀ d ∈ ds, d.reqs.Nodup) :
    rid ∉ othersOf ds rid := by
  induction ds using List.reverseRecOn with
  | nil => simp [othersOf]
  | append_singleton ds d ih =>
    have ih := ih fun d' hd' => hnd d' (List.mem_append_left _ hd')
    rw [othersOf_concat, List.erase_append_right _ ih]
    exact fun hm => (List.mem_append.1 hm).elim ih (List.Nodup.not_mem_erase (hnd d (by simp)))

theorem sameSet_iff {a b : List String} : sameSet a b = true ↔ ∀ x, x ∈ a ↔ x ∈ b := by
  simp only [sameSet, Bool.and_eq_true, List.all_eq_true, List.contains_iff_mem, iff_iff_implies_and_implies,
    forall_and]

theorem sameSet_refl (a : List String) : sameSet a a = true := sameSet_iff.2 fun _ => Iff.rfl

theorem sameSet_symm {a b : List String} (h : sameSet a b = true) : sameSet b a = true :=
  sameSet_iff.2 fun x => (sameSet_iff.1 h x).symm

theorem sameSet_trans {a b c : List String} (h1 : sameSet a b = true) (h2 : sameSet b c = true) :
    sameSet a c = true :=
  sameSet_iff.2 fun x => (sameSet_iff.1 h1 x).trans (sameSet_iff.1 h2 x)

theorem sameDisj_nil (a b : String) : sameDisj [] a b = true := by simp [sameDisj]

/-- two requests that are both listed by some vector: `same_disj` compares their partner sets -/
theorem sameDisj_eq_sameSet {ds : List Disj} {x y : String} {dx dy : Disj} (hdx : dx ∈ ds) (hx : x ∈ dx.reqs)
    (hdy : dy ∈ ds) (hy : y ∈ dy.reqs) :
    sameDisj ds x y = sameSet (othersOf (ds.filter fun d => d.reqs.contains x) x)
      (othersOf (ds.filter fun d => d.reqs.contains y) y) := by
  have h1 : dx ∈ ds.filter fun d => d.reqs.contains x := List.mem_filter.2 ⟨hdx, List.contains_iff_mem.2 hx⟩
  have h2 : dy ∈ ds.filter fun d => d.reqs.contains y := List.mem_filter.2 ⟨hdy, List.contains_iff_mem.2 hy⟩
  unfold sameDisj
  simp only [List.isEmpty_eq_false_iff_exists_mem.2 ⟨dx, h1⟩, List.isEmpty_eq_false_iff_exists_mem.2 ⟨dy, h2⟩,
    Bool.not_false, Bool.and_self, if_true]

theorem absorbIntoD_nil (req : AReq κ ℝ) (l : List (AReq κ ℝ)) :
    (absorbIntoD [] req l).map (·.1) = absorbInto req l := by
  induction l with
  | nil => rfl
  | cons t rest ih =>
    simp only [absorbIntoD, absorbInto, sameDisj_nil, true_and]
    split
    · rfl
    · rw [← ih]; cases absorbIntoD [] req rest <;> rfl

/-- what a successful inner loop found: a request `t` of the list, other than `req`, for which `compare_reqs` (incl.
`same_disj`) holds; `oldId`/`newId` are its id before/after absorbing `req` -/
theorem absorbIntoD_eq_some {α : Type} [Add α] {ds : List Disj} {req : AReq κ α} {loc l' : List (AReq κ α)}
    {oldId newId : String} (h : absorbIntoD ds req loc = some (l', oldId, newId)) :
    ∃ t ∈ loc, oldId = t.idStr ∧ newId = (absorb t req).idStr ∧ absorb t req ∈ l' ∧ req.idStr ≠ t.idStr ∧
      sameDisj ds req.idStr t.idStr = true := by
  induction loc generalizing l' with
  | nil => cases h
  | cons t rest ih =>
    rw [absorbIntoD] at h
    split at h
    next hc =>
      cases h
      exact ⟨t, List.mem_cons_self, rfl, rfl, List.mem_cons_self, hc.1, hc.2.2.1⟩
    next =>
      obtain ⟨⟨l2, o2, n2⟩, hr, he⟩ := Option.map_eq_some_iff.1 h
      cases he
      obtain ⟨t', ht', hold, hnew, hmem, hrest⟩ := ih hr
      exact ⟨t', List.mem_cons_of_mem _ ht', hold, hnew, List.mem_cons_of_mem _ hmem, hrest⟩

theorem renameIn_id (a b : String) (d : Disj) : (renameIn a b d).id = d.id := by
  unfold renameIn
  split <;> rfl

theorem aggStepD_nil (l : List (AReq κ ℝ)) (i : Nat) : aggStepD (l, []) i = (aggStep l i, []) := by
  unfold aggStepD aggStep
  cases l.find? (fun r => r.pos == i) with
  | none => rfl
  | some req =>
    simp only [← absorbIntoD_nil req l]
    cases absorbIntoD [] req l <;> rfl

/-- without disjunctions the aggregation with disjunction bookkeeping is the plain aggregation (to which
`aggregation_spec` applies) -/
theorem requestsAggregationD_nil (rs : List (AReq κ ℝ)) :
    requestsAggregationD rs [] = (requestsAggregation rs, []) :=
  List.foldl_hom (fun l => (l, [])) aggStepD_nil

end Gnpy.Response
