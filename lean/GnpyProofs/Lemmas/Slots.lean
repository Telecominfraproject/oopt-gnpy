import GnpyModel.Slots
import Mathlib.Data.List.Forall2
import GnpyProofs.Lemmas.PyList
import GnpyProofs.Lemmas.Except
/- Helper lemmas for C14/C15: specification view of a `Bitmap` (cell at an ITU index, range marking) and what the
   transliterated operations do in that view. Model: GnpyModel/Slots.lean. -/
namespace Gnpy.Slots
open Gnpy.Py

/-- the cell recorded for ITU slot index `x` (`none` outside the map) -/
def Bitmap.cellAt (b : Bitmap) (x : Int) : Option Cell :=
  if b.nMin ≤ x then b.cells[(x - b.nMin).toNat]? else none

/-- the index list is the contiguous range `n_min … n_max` and there is one cell per index -/
def Bitmap.WF (b : Bitmap) : Prop :=
  b.freqIndex = intRange b.nMin (b.nMax + 1) ∧ b.cells.length = b.freqIndex.length

/-- specification of an assignment: the cells with index in `[lo, hi]` become occupied -/
def Bitmap.markRange (b : Bitmap) (lo hi : Int) : Bitmap :=
  { b with cells := b.cells.mapIdx (fun k c => if lo ≤ b.nMin + (k : Int) ∧ b.nMin + (k : Int) ≤ hi then Cell.occupied else c) }

/-! ### positions and slot indices: position `k` of the cell list belongs to slot index `nMin + k` -/

theorem Bitmap.index_cases (b : Bitmap) (x : Int) : x < b.nMin ∨ ∃ k : Nat, x = b.nMin + k :=
  (Int.lt_or_le x b.nMin).imp_right fun h => (Int.le.dest h).imp fun _ => Eq.symm

theorem Bitmap.cellAt_of_lt (b : Bitmap) {x : Int} (hx : x < b.nMin) : b.cellAt x = none :=
  if_neg (Int.not_le.2 hx)

theorem Bitmap.cellAt_add (b : Bitmap) (k : Nat) : b.cellAt (b.nMin + k) = b.cells[k]? := by
  rw [Bitmap.cellAt, if_pos (Int.le_add_of_nonneg_right (Int.natCast_nonneg k)), Int.add_comm, Int.add_sub_cancel,
    Int.toNat_natCast]

theorem Bitmap.cellAt_eq_some_iff (b : Bitmap) {x : Int} {c : Cell} :
    b.cellAt x = some c ↔ ∃ k : Nat, x = b.nMin + k ∧ b.cells[k]? = some c := by
  constructor
  · intro hx
    rcases b.index_cases x with hlt | ⟨k, rfl⟩
    · rw [b.cellAt_of_lt hlt] at hx
      cases hx
    · exact ⟨k, rfl, b.cellAt_add k ▸ hx⟩
  · rintro ⟨k, rfl, hk⟩
    rwa [b.cellAt_add]

theorem Bitmap.length_cells (b : Bitmap) (h : b.WF) : b.cells.length = (b.nMax + 1 - b.nMin).toNat := by
  rw [h.2, h.1, length_intRange]

theorem Bitmap.lt_length_iff (b : Bitmap) (h : b.WF) {k : Nat} : k < b.cells.length ↔ b.nMin + k ≤ b.nMax := by
  rw [b.length_cells h]
  omega

theorem Bitmap.cellAt_inGrid (b : Bitmap) (h : b.WF) {x : Int} {c : Cell} (hx : b.cellAt x = some c) :
    b.nMin ≤ x ∧ x ≤ b.nMax := by
  obtain ⟨k, rfl, hk⟩ := b.cellAt_eq_some_iff.1 hx
  exact ⟨Int.le_add_of_nonneg_right (Int.natCast_nonneg k), (b.lt_length_iff h).1 (List.getElem?_eq_some_iff.1 hk).1⟩

theorem Bitmap.cellAt_of_gt (b : Bitmap) (h : b.WF) {x : Int} (hx : b.nMax < x) : b.cellAt x = none := by
  cases hc : b.cellAt x with
  | none => rfl
  | some c => exact absurd (b.cellAt_inGrid h hc).2 (Int.not_le.2 hx)

theorem Bitmap.geti_eq_some (b : Bitmap) (h : b.WF) {n : Int} {k : Nat} :
    b.geti n = some k ↔ n = b.nMin + k ∧ k < b.cells.length := by
  rw [Bitmap.geti, h.1, indexOf?_intRange, b.lt_length_iff h]
  exact and_congr_right fun e => by rw [e, Int.lt_add_one_iff]

theorem Bitmap.index?_freqIndex (b : Bitmap) (h : b.WF) {a : Int} {c : Cell} (hx : b.cellAt (b.nMin + a) = some c) :
    index? b.freqIndex a = some (b.nMin + a) := by
  obtain ⟨k, hk, hc⟩ := b.cellAt_eq_some_iff.1 hx
  cases Int.add_left_cancel hk
  rw [index?, if_neg (Int.not_lt.2 (Int.natCast_nonneg k)), Int.toNat_natCast, h.1, getElem?_intRange,
    if_pos (b.length_cells h ▸ (List.getElem?_eq_some_iff.1 hc).1)]

/-! ### `OMS.assign_spectrum` -/

/-- what `OMS.assign_spectrum` does on a well-formed map when the five checks pass: exactly `[N−M, N+M−1]` is marked -/
theorem assignSpectrum_eq (b : Bitmap) (n m : Int) (hwf : b.WF) (h1 : 0 < m) (h2 : b.idxMin ≤ n) (h3 : n ≤ b.idxMax)
    (h4 : b.nMin < n - m) (h5 : n + m - 1 ≤ b.nMax) :
    assignSpectrum b n m = .ok (b.markRange (n - m) (n + m - 1)) := by
  -- in positions: the cells `i … j` of the list
  obtain ⟨i, hi⟩ := (b.index_cases (n - m)).resolve_left (Int.not_lt.2 (Int.le_of_lt h4))
  obtain ⟨j, hj⟩ := (b.index_cases (n + m - 1)).resolve_left (by omega)
  have hjl : j < b.cells.length := (b.lt_length_iff hwf).2 (hj ▸ h5)
  have hij : i ≤ j := by omega
  rw [assignSpectrum, if_neg (Int.not_le.2 h1), if_neg (Int.not_lt.2 h3), if_neg (Int.not_lt.2 h2), if_neg (Int.not_lt.2 h5),
    if_neg (Int.not_le.2 h4), hi, hj, (b.geti_eq_some hwf).2 ⟨rfl, Nat.lt_of_le_of_lt hij hjl⟩,
    (b.geti_eq_some hwf).2 ⟨rfl, hjl⟩]
  simp only [sliceAssign_rep hij hjl (show b.nMin + j - (b.nMin + i) + 1 = j - i + 1 by omega), Bitmap.markRange,
    Int.add_le_add_iff_left, Int.ofNat_le, Except.pure_eq_ok]

/-- the inversion: a call of `OMS.assign_spectrum` that succeeded on a well-formed map passed the five checks and marked
    exactly `[N−M, N+M−1]` -/
theorem assignSpectrum_ok (b b' : Bitmap) (n m : Int) (hwf : b.WF) (h : assignSpectrum b n m = .ok b') :
    0 < m ∧ b.idxMin ≤ n ∧ n ≤ b.idxMax ∧ b.nMin < n - m ∧ n + m - 1 ≤ b.nMax ∧ b' = b.markRange (n - m) (n + m - 1) := by
  obtain ⟨h1, h2, h3, h4, h5⟩ : 0 < m ∧ b.idxMin ≤ n ∧ n ≤ b.idxMax ∧ b.nMin < n - m ∧ n + m - 1 ≤ b.nMax := by
    simp only [assignSpectrum, Except.ite_throw_eq_ok] at h
    omega
  rw [assignSpectrum_eq b n m hwf h1 h2 h3 h4 h5] at h
  exact ⟨h1, h2, h3, h4, h5, (Except.ok.inj h).symm⟩

/-- `OMS.assign_spectrum` succeeds on a well-formed map when the five checks pass -/
theorem assignSpectrum_of (b : Bitmap) (n m : Int) (hwf : b.WF) (h1 : 0 < m) (h2 : b.idxMin ≤ n) (h3 : n ≤ b.idxMax)
    (h4 : b.nMin < n - m) (h5 : n + m - 1 ≤ b.nMax) : ∃ b', assignSpectrum b n m = .ok b' :=
  ⟨_, assignSpectrum_eq b n m hwf h1 h2 h3 h4 h5⟩

/-! ### free ranges (`RangeOK`) and the availability tests that decide them -/

/-- the slots `[n−m, n+m−1]` are all free in `b` and lie inside its guard-band limits -/
def RangeOK (b : Bitmap) (n m : Int) : Prop :=
  b.idxMin ≤ n - m ∧ n + m - 1 ≤ b.idxMax ∧ ∀ x : Int, n - m ≤ x → x ≤ n + m - 1 → b.cellAt x = some Cell.free

theorem RangeOK.inGrid {b : Bitmap} {n m : Int} (hwf : b.WF) (hm : 0 < m) (h : RangeOK b n m) :
    b.nMin ≤ n - m ∧ n + m - 1 ≤ b.nMax := by
  have hw : n - m ≤ n + m - 1 := by omega
  exact ⟨(b.cellAt_inGrid hwf (h.2.2 _ (Int.le_refl _) hw)).1, (b.cellAt_inGrid hwf (h.2.2 _ hw (Int.le_refl _))).2⟩

/-- a comparison `avail[a:z] == [FREE]*k` of the tests below (`z = a + k`), read on the slots: the positions `a … z − 1`
    exist and are free -/
theorem Bitmap.slice_free_iff (b : Bitmap) (a z k : Int) (hk : 0 < k) (hz : z = a + k) (hz0 : 0 ≤ z) :
    slice b.cells a z = rep k Cell.free ↔
      ∀ x, b.nMin + a ≤ x → x ≤ b.nMin + (z - 1) → b.cellAt x = some Cell.free := by
  subst hz
  rw [slice_eq_rep_iff hk hz0]
  simp only [Bitmap.cellAt_eq_some_iff]
  constructor
  · intro h x hx1 hx2
    obtain ⟨p, hp, hc⟩ := h (x - b.nMin) (by omega) (by omega)
    exact ⟨p, by omega, hc⟩
  · intro h j hj1 hj2
    obtain ⟨p, hp, hc⟩ := h (b.nMin + j) (Int.add_le_add_left hj1 _) (by omega)
    exact ⟨p, Int.add_left_cancel hp, hc⟩

/-- the availability test of `spectrum_selection` and `determine_slot_numbers` on the positions `a … z − 1` that the slot
    `(n, m)` occupies in the cell list: the free slice and the two comparisons with the guard-band limits say `RangeOK`;
    and the two index look-ups that follow a free slice in these tests succeed, since the ends of the slice are positions
    of the index list, which holds `nMin + j` at `j` -/
theorem Bitmap.rangeOK_iff_avail (b : Bitmap) (hwf : b.WF) (n m : Int) (hm : 0 < m) (a z : Int) (hn : n = b.nMin + a + m)
    (hz : z = a + 2 * m) (hz0 : 0 ≤ z) :
    (RangeOK b n m ↔ slice b.cells a z = rep (2 * m) Cell.free ∧ b.idxMin ≤ b.nMin + a ∧ b.nMin + (z - 1) ≤ b.idxMax) ∧
    (slice b.cells a z = rep (2 * m) Cell.free →
      index? b.freqIndex a = some (b.nMin + a) ∧ index? b.freqIndex (z - 1) = some (b.nMin + (z - 1))) := by
  have hs := b.slice_free_iff a z (2 * m) (Int.mul_pos (by decide) hm) hz hz0
  refine ⟨?_, fun h => ?_⟩
  · rw [hs, RangeOK, show n - m = b.nMin + a by omega, show n + m - 1 = b.nMin + (z - 1) by omega]
    exact and_rotate.symm
  · have hfree := hs.1 h
    exact ⟨b.index?_freqIndex hwf (hfree _ (Int.le_refl _) (by omega)), b.index?_freqIndex hwf (hfree _ (by omega) (Int.le_refl _))⟩

open Classical in
/-- the availability test around a centre (`spectrum_selection(requested_n=…)`, `determine_slot_numbers`) on a well-formed
    map returns whether `RangeOK` holds: the look-ups that could raise follow a free slice, where they succeed -/
theorem centredFree_eq (b : Bitmap) (hwf : b.WF) (c : Nat) (i : Int) (hi : 0 < i) :
    centredFree b c i = .ok (decide (RangeOK b (b.nMin + c) i)) := by
  obtain ⟨hiff, hidx⟩ := b.rangeOK_iff_avail hwf (b.nMin + c) i hi (c - i) (c + i) (hn := by omega) (hz := by omega)
    (hz0 := by omega)
  unfold centredFree
  by_cases h : slice b.cells (c - i) (c + i) = rep (2 * i) Cell.free
  · have hr := hiff.trans (and_iff_right h)
    obtain ⟨i1, i2⟩ := hidx h
    rw [if_pos h, i1, i2]
    by_cases h1 : b.idxMin ≤ b.nMin + (c - i)
    · exact (if_pos h1).trans (congrArg Except.ok (decide_eq_decide.2 ⟨fun h2 => hr.2 ⟨h1, h2⟩, fun hR => (hr.1 hR).2⟩))
    · exact (if_neg h1).trans (congrArg Except.ok (decide_eq_false fun hR => h1 (hr.1 hR).1).symm)
  · exact (if_neg h).trans (congrArg Except.ok (decide_eq_false fun hR => h (hiff.1 hR).1).symm)

theorem RangeOK.of_centredFree {b : Bitmap} (hwf : b.WF) {c : Nat} {i : Int} (hi : 0 < i)
    (h : centredFree b c i = .ok true) : RangeOK b (b.nMin + c) i := by
  classical
  rw [centredFree_eq b hwf c i hi] at h
  exact of_decide_eq_true (Except.ok.inj h)

open Classical in
/-- one element of the candidate comprehension of `spectrum_selection`: position `i` is a candidate exactly when the
    slot centred `m` above it is available -/
theorem candAt_eq (b : Bitmap) (hwf : b.WF) (m : Int) (hm : 0 < m) (i : Nat) :
    candAt b m i = .ok (if RangeOK b (b.nMin + i + m) m then some (b.nMin + i + m) else none) := by
  obtain ⟨hiff, hidx⟩ := b.rangeOK_iff_avail hwf (b.nMin + i + m) m hm i (i + 2 * m) (hn := rfl) (hz := rfl) (hz0 := by omega)
  unfold candAt
  -- as in `centredFree_eq`, with the upper limit tested on its own
  by_cases h : slice b.cells i (i + 2 * m) = rep (2 * m) Cell.free
  · have hr := hiff.trans (and_iff_right h)
    obtain ⟨i1, i2⟩ := hidx h
    rw [if_pos h, i1, i2]
    by_cases h1 : b.idxMin ≤ b.nMin + i
    · by_cases h2 : b.nMin + (i + 2 * m - 1) ≤ b.idxMax
      · exact (if_pos h1).trans ((if_pos h2).trans (congrArg Except.ok (if_pos (hr.2 ⟨h1, h2⟩)).symm))
      · exact (if_pos h1).trans ((if_neg h2).trans (congrArg Except.ok (if_neg fun hR => h2 (hr.1 hR).2).symm))
    · exact (if_neg h1).trans (congrArg Except.ok (if_neg fun hR => h1 (hr.1 hR).1).symm)
  · exact (if_neg h).trans (congrArg Except.ok (if_neg fun hR => h (hiff.1 hR).1).symm)

/-! ### `spectrum_selection` -/

theorem candidates_eq {b : Bitmap} {m : Int} {f : Nat → Option Int} (h : ∀ i, candAt b m i = .ok (f i)) (is : List Nat) :
    candidates b m is = .ok (is.filterMap f) := by
  induction is with
  | nil => rfl
  | cons i is ih =>
    rw [candidates, h i, ih, List.filterMap_cons]
    cases f i <;> rfl

/-- the candidates of `spectrum_selection` are exactly the feasible centres, in increasing order -/
theorem candidates_spec (b : Bitmap) (hwf : b.WF) (m : Int) (hm : 0 < m) :
    ∃ c, candidates b m (List.range b.cells.length) = .ok c ∧ c.Pairwise (· < ·) ∧ ∀ n, n ∈ c ↔ RangeOK b n m := by
  refine ⟨_, candidates_eq (candAt_eq b hwf m hm) _, ?_, fun n => ?_⟩
  · -- position `i` contributes the centre `nMin + i + m` or nothing: increasing in `i`
    refine List.Pairwise.filterMap _ (fun i j hij x hx y hy => ?_) List.pairwise_lt_range
    rw [Option.ite_none_right_eq_some, Option.some.injEq] at hx hy
    omega
  · simp only [List.mem_filterMap, List.mem_range, Option.ite_none_right_eq_some, Option.some.injEq]
    constructor
    · rintro ⟨i, -, hok, rfl⟩
      exact hok
    · intro h
      obtain ⟨g1, g2⟩ := h.inGrid hwf hm
      obtain ⟨k, hk⟩ := (b.index_cases (n - m)).resolve_left (Int.not_lt.2 g1)
      obtain rfl : n = b.nMin + k + m := by omega
      exact ⟨k, (b.lt_length_iff hwf).2 (by omega), h, rfl⟩

theorem selectCandidate_first (c : List Int) : selectCandidate c .firstFit = .ok c.head? := by
  cases c <;> rfl

theorem selectCandidate_last (c : List Int) : selectCandidate c .lastFit = .ok c.getLast? := by
  cases c with
  | nil => rfl
  | cons x xs => simp [selectCandidate, List.getLast?_cons]

theorem selectCandidate_mem {c : List Int} {pol : Policy} {n : Int} (h : selectCandidate c pol = .ok (some n)) : n ∈ c := by
  cases pol with
  | firstFit =>
    rw [selectCandidate_first] at h
    exact List.mem_of_head? (Except.ok.inj h)
  | lastFit =>
    rw [selectCandidate_last] at h
    exact List.mem_of_getLast? (Except.ok.inj h)
  | other => cases c <;> cases h

/-- `spectrum_selection` (free N): the returned centre is free and inside the guard bands, whatever the policy -/
theorem spectrumSelection_sound (b : Bitmap) (hwf : b.WF) (m : Int) (hm : 0 < m) (pol : Policy) (n : Int)
    (h : spectrumSelection b m pol = .ok (some n)) : RangeOK b n m := by
  obtain ⟨c, hc, -, hmem⟩ := candidates_spec b hwf m hm
  rw [spectrumSelection, hc] at h
  exact (hmem n).1 (selectCandidate_mem h)

/-- first fit: no feasible position below the returned one -/
theorem spectrumSelection_first (b : Bitmap) (hwf : b.WF) (m : Int) (hm : 0 < m) (n : Int)
    (h : spectrumSelection b m Policy.firstFit = .ok (some n)) :
    ∀ n' : Int, n' < n → ¬ RangeOK b n' m := by
  obtain ⟨c, hc, hsort, hmem⟩ := candidates_spec b hwf m hm
  rw [spectrumSelection, hc, Except.ok_bind, selectCandidate_first] at h
  obtain ⟨xs, rfl⟩ := List.head?_eq_some_iff.1 (Except.ok.inj h)
  intro n' hlt hok
  rcases List.mem_cons.1 ((hmem n').2 hok) with rfl | h'
  · omega
  · have := List.rel_of_pairwise_cons hsort h'
    omega

/-- last fit: no feasible position above the returned one -/
theorem spectrumSelection_last (b : Bitmap) (hwf : b.WF) (m : Int) (hm : 0 < m) (n : Int)
    (h : spectrumSelection b m Policy.lastFit = .ok (some n)) :
    ∀ n' : Int, n < n' → ¬ RangeOK b n' m := by
  obtain ⟨c, hc, hsort, hmem⟩ := candidates_spec b hwf m hm
  rw [spectrumSelection, hc, Except.ok_bind, selectCandidate_last] at h
  obtain ⟨ys, rfl⟩ := List.getLast?_eq_some_iff.1 (Except.ok.inj h)
  intro n' hlt hok
  rcases List.mem_append.1 ((hmem n').2 hok) with h' | h'
  · have := (List.pairwise_append.1 hsort).2.2 n' h' n (List.mem_singleton_self n)
    omega
  · have := List.mem_singleton.1 h'
    omega

/-! ### `determine_slot_numbers` -/

/-- the `while` of `determine_slot_numbers` returns "nothing" (the start width less one step), or a width that passed the
    availability test after the start width `i` passed it -/
theorem dsnLoop_eq_ok {b : Bitmap} {c : Nat} {req pcm : Int} :
    ∀ {fuel : Nat} {i r : Int}, dsnLoop b c req pcm fuel i = .ok r →
      r = i - pcm ∨ (centredFree b c i = .ok true ∧ centredFree b c r = .ok true) := by
  intro fuel
  induction fuel with
  | zero => exact fun h => nomatch h
  | succ fuel ih =>
    intro i r h
    simp only [dsnLoop, Except.bind_eq_ok, Except.ite_eq_ok, Except.pure_eq_ok_iff] at h
    obtain ⟨v, hv, ⟨rfl, ⟨-, hnext⟩ | ⟨-, hstop⟩⟩ | ⟨-, hstop⟩⟩ := h
    · -- `i` passed and does not cover the demand yet: the loop goes on with `i + pcm`
      rcases ih hnext with h' | h'
      · -- which returned `(i + pcm) - pcm`: the width `i` that passed
        obtain rfl : r = i := by omega
        exact Or.inr ⟨hv, hv⟩
      · exact Or.inr ⟨hv, h'.2⟩
    · -- `i` passed and covers the demand
      exact Or.inl hstop.symm
    · -- `i` failed
      exact Or.inl hstop.symm

/-- `determine_slot_numbers` returns 0, or a width that passed the availability test around the centre `n` after the first
    width tried, `pcm`, passed it -/
theorem determineSlotNumbers_eq_ok {b : Bitmap} (hwf : b.WF) {n req pcm r : Int}
    (h : determineSlotNumbers b n req pcm = .ok r) :
    r = 0 ∨ ∃ c : Nat, b.nMin + (c : Int) = n ∧ centredFree b c pcm = .ok true ∧ centredFree b c r = .ok true := by
  rw [determineSlotNumbers] at h
  split at h
  · exact Or.inl (Except.ok.inj h).symm
  · next c hg =>
    exact (dsnLoop_eq_ok h).imp (fun e => e.trans (Int.sub_self pcm)) fun h' =>
      ⟨c, ((b.geti_eq_some hwf).1 hg).1.symm, h'⟩

theorem determineSlotNumbers_pos (b : Bitmap) (hwf : b.WF) (n req pcm r : Int)
    (h : determineSlotNumbers b n req pcm = .ok r) (hr : 0 < r) : RangeOK b n r := by
  rcases determineSlotNumbers_eq_ok hwf h with h0 | ⟨c, rfl, -, hc⟩
  · omega
  · exact .of_centredFree hwf hr hc

theorem determineSlotNumbers_fixed (b : Bitmap) (hwf : b.WF) (n m av : Int)
    (h : determineSlotNumbers b n m m = .ok av) (hav : av ≠ 0) (hm : 0 < m) : RangeOK b n m := by
  rcases determineSlotNumbers_eq_ok hwf h with h0 | ⟨c, rfl, hc, -⟩
  · exact absurd h0 hav
  · exact .of_centredFree hwf hm hc

/-! ### disjoint assignments (`Disj`); marking: what one assignment, and a list of assignments, does to a map -/

/-- two (N, M) assignments do not share a slot -/
def Disj (p q : Int × Int) : Prop := p.1 + p.2 - 1 < q.1 - q.2 ∨ q.1 + q.2 - 1 < p.1 - p.2

theorem Disj.symm {p q : Int × Int} (h : Disj p q) : Disj q p :=
  Or.symm h

theorem Disj.of_forall {p q : Int × Int} (hp : 0 < p.2) (hq : 0 < q.2)
    (h : ∀ x, q.1 - q.2 ≤ x → x ≤ q.1 + q.2 - 1 → ¬ (p.1 - p.2 ≤ x ∧ x ≤ p.1 + p.2 - 1)) : Disj p q := by
  -- otherwise the larger of the two lower ends lies in both
  have h1 := h (q.1 - q.2)
  have h2 := h (p.1 - p.2)
  unfold Disj
  omega

/-- `b'` is `b` with the slots that satisfy `P` turned to occupied: nothing but the cells differs, and their number
    stays -/
structure Bitmap.Marked (b b' : Bitmap) (P : Int → Prop) [DecidablePred P] : Prop where
  only_cells : b' = { b with cells := b'.cells }
  length : b'.cells.length = b.cells.length
  cellAt : ∀ x, b'.cellAt x = (b.cellAt x).map (fun c => if P x then Cell.occupied else c)

/-- a slot that is free after marking was free before and is not marked -/
theorem map_mark_eq_free {oc : Option Cell} {p : Prop} [Decidable p]
    (h : oc.map (fun c => if p then Cell.occupied else c) = some Cell.free) : oc = some Cell.free ∧ ¬ p := by
  cases oc with
  | none => cases h
  | some c => by_cases hp : p <;> simp_all

namespace Bitmap.Marked
variable {b b1 b' : Bitmap} {P Q : Int → Prop} [DecidablePred P] [DecidablePred Q]

theorem refl (b : Bitmap) : b.Marked b (fun _ => False) :=
  ⟨rfl, rfl, fun x => by cases b.cellAt x <;> rfl⟩

theorem congr (h : b.Marked b' P) (hPQ : ∀ x, P x ↔ Q x) : b.Marked b' Q :=
  ⟨h.only_cells, h.length, fun x => (h.cellAt x).trans (by simp only [hPQ x])⟩

theorem trans (h1 : b.Marked b1 P) (h2 : b1.Marked b' Q) : b.Marked b' (fun x => P x ∨ Q x) := by
  refine ⟨h2.only_cells.trans (by rw [h1.only_cells]), h2.length.trans h1.length, fun x => ?_⟩
  rw [h2.cellAt x, h1.cellAt x]
  cases b.cellAt x with
  | none => rfl
  | some c => by_cases hp : P x <;> by_cases hq : Q x <;> simp [hp, hq]

theorem wf (h : b.Marked b' P) (hwf : b.WF) : b'.WF := by
  rw [h.only_cells]
  exact ⟨hwf.1, h.length.trans hwf.2⟩

/-- a range that is free after marking was free before, and none of its slots was marked -/
theorem rangeOK {n m : Int} (h : b.Marked b' P) (hr : RangeOK b' n m) :
    RangeOK b n m ∧ ∀ x, n - m ≤ x → x ≤ n + m - 1 → ¬ P x := by
  obtain ⟨h1, h2, hc⟩ := hr
  rw [h.only_cells] at h1 h2
  have hfree := fun x a b => map_mark_eq_free ((h.cellAt x).symm.trans (hc x a b))
  exact ⟨⟨h1, h2, fun x a b => (hfree x a b).1⟩, fun x a b => (hfree x a b).2⟩

end Bitmap.Marked

/-- `markRange` marks exactly the slots of `[lo, hi]`; what else is used about it are the consequences `Marked.wf` and
    `Marked.rangeOK` -/
theorem Bitmap.markRange_marked (b : Bitmap) (lo hi : Int) : b.Marked (b.markRange lo hi) (fun x => lo ≤ x ∧ x ≤ hi) := by
  refine ⟨rfl, List.length_mapIdx, fun x => ?_⟩
  rcases b.index_cases x with h | ⟨k, rfl⟩
  · rw [b.cellAt_of_lt h]
    exact Bitmap.cellAt_of_lt _ h
  · rw [b.cellAt_add]
    exact ((b.markRange lo hi).cellAt_add k).trans List.getElem?_mapIdx

/-- all `[N−M, N+M−1]` of a list marked -/
def Bitmap.markAll (b : Bitmap) (sel : List (Int × Int)) : Bitmap :=
  sel.foldl (fun b nm => b.markRange (nm.1 - nm.2) (nm.1 + nm.2 - 1)) b

/-- slot `x` belongs to one of the assignments -/
def covers (sel : List (Int × Int)) (x : Int) : Bool := sel.any (fun nm => decide (nm.1 - nm.2 ≤ x ∧ x ≤ nm.1 + nm.2 - 1))

theorem covers_iff (sel : List (Int × Int)) (x : Int) :
    covers sel x = true ↔ ∃ nm ∈ sel, nm.1 - nm.2 ≤ x ∧ x ≤ nm.1 + nm.2 - 1 := by
  simp only [covers, List.any_eq_true, decide_eq_true_eq]

/-- `markAll sel` marks exactly the slots that `sel` covers -/
theorem Bitmap.markAll_marked (sel : List (Int × Int)) : ∀ b : Bitmap, b.Marked (b.markAll sel) (fun x => covers sel x) := by
  induction sel with
  | nil => exact fun b => (Marked.refl b).congr fun x => by simp [covers]
  | cons nm sel ih =>
    intro b
    -- `markAll` marks the range of `nm`, then the rest
    exact ((b.markRange_marked _ _).trans (ih _)).congr fun x => by
      simp only [covers, List.any_cons, Bool.or_eq_true, decide_eq_true_eq]

/-! ### the selection loop of `compute_n_m` -/

/-- a returned pair carries the user's N (resp. M) unchanged -/
def Honoured (e : Entry) (nm : Int × Int) : Prop := (∀ n, e.n = some n → nm.1 = n) ∧ (∀ m, e.m = some m → nm.2 = m)

/-- the four shapes of an entry of `compute_n_m` (M and N given or not) and what a selected pair says in each -/
theorem selectOne_eq_ok {t : Bitmap} {e : Entry} {rem pcm : Int} {pol : Policy} {n m : Int}
    (h : selectOne t e rem pcm pol = .ok (some (n, m))) :
    (e = ⟨some n, some m⟩ ∧ ∃ av, determineSlotNumbers t n m m = .ok av ∧ av ≠ 0) ∨
    (e = ⟨none, some m⟩ ∧ spectrumSelection t m pol = .ok (some n)) ∨
    (e = ⟨some n, none⟩ ∧ determineSlotNumbers t n rem pcm = .ok m) ∨
    (e = ⟨none, none⟩ ∧ m = rem ∧ spectrumSelection t m pol = .ok (some n)) := by
  obtain ⟨en, em⟩ := e
  cases em <;> cases en <;>
    simp only [selectOne, Except.bind_eq_ok, Except.ite_eq_ok, Except.pure_eq_ok_iff, reduceCtorEq, and_false, false_or,
      Option.some.injEq, Prod.mk.injEq] at h
  · -- neither given
    obtain ⟨-, o, hd, h⟩ := h
    split at h
    · cases h
    · cases Except.pure_eq_ok_iff.1 h
      exact Or.inr (Or.inr (Or.inr ⟨rfl, rfl, hd⟩))
  · -- N given
    obtain ⟨r, hd, -, rfl, rfl⟩ := h
    exact Or.inr (Or.inr (Or.inl ⟨rfl, hd⟩))
  · -- M given
    obtain ⟨o, hd, h⟩ := h
    split at h
    · cases h
    · cases Except.pure_eq_ok_iff.1 h
      exact Or.inr (Or.inl ⟨rfl, hd⟩)
  · -- both given
    obtain ⟨av, hd, hav, rfl, rfl⟩ := h
    exact Or.inl ⟨rfl, av, hd, hav⟩

theorem selectOne_sound {t : Bitmap} (hwf : t.WF) {e : Entry} {rem pcm : Int} {pol : Policy} {n m : Int}
    (h : selectOne t e rem pcm pol = .ok (some (n, m))) (hm : 0 < m) : RangeOK t n m ∧ Honoured e (n, m) := by
  rcases selectOne_eq_ok h with ⟨rfl, av, hd, hav⟩ | ⟨rfl, hd⟩ | ⟨rfl, hd⟩ | ⟨rfl, rfl, hd⟩
  · exact ⟨determineSlotNumbers_fixed t hwf _ _ av hd hav hm, by simp [Honoured]⟩
  · exact ⟨spectrumSelection_sound t hwf _ hm pol _ hd, by simp [Honoured]⟩
  · exact ⟨determineSlotNumbers_pos t hwf _ _ _ _ hd hm, by simp [Honoured]⟩
  · exact ⟨spectrumSelection_sound t hwf _ hm pol _ hd, by simp [Honoured]⟩

/-- an entry without N gets its centre from `spectrum_selection` -/
theorem selectOne_free {t : Bitmap} {e : Entry} {rem pcm : Int} {pol : Policy} {n m : Int} (hn : e.n = none)
    (h : selectOne t e rem pcm pol = .ok (some (n, m))) : spectrumSelection t m pol = .ok (some n) := by
  rcases selectOne_eq_ok h with ⟨rfl, -⟩ | ⟨-, hd⟩ | ⟨rfl, -⟩ | ⟨-, -, hd⟩
  · cases hn
  · exact hd
  · cases hn
  · exact hd

/-- one turn of the loop of `compute_n_m` that returned: the entry was left unused and the loop stopped, or a pair was
    selected and assigned and the loop went on with the rest -/
theorem nmLoop_cons_eq_ok {pcm : Int} {pol : Policy} {t : Bitmap} {rem : Int} {e : Entry} {es : List Entry}
    {sel : List (Int × Int)} {r : Int} (h : nmLoop pcm pol t rem (e :: es) = .ok (sel, r)) :
    (selectOne t e rem pcm pol = .ok none ∧ sel = [] ∧ r = rem) ∨
    ∃ n m t' sel', selectOne t e rem pcm pol = .ok (some (n, m)) ∧ assignSpectrum t n m = .ok t' ∧
      nmLoop pcm pol t' (rem - m) es = .ok (sel', r) ∧ sel = (n, m) :: sel' := by
  simp only [nmLoop, Except.bind_eq_ok] at h
  obtain ⟨o, hs, h⟩ := h
  split at h
  · cases Except.pure_eq_ok_iff.1 h
    exact Or.inl ⟨hs, rfl, rfl⟩
  · next n m =>
    simp only [Except.bind_eq_ok, Except.pure_eq_ok_iff] at h
    obtain ⟨t', ha, ⟨sel', r'⟩, hl, h⟩ := h
    cases h
    exact Or.inr ⟨n, m, t', sel', hs, ha, hl, rfl⟩

/-- the selection loop of `compute_n_m` on the test bitmap `t`: every selected pair is free (`RangeOK`) in the bitmap the
    loop started with, not only in the bitmap of its turn, which is what makes the pairs pairwise `Disj`; a pair selected
    after `(n, m)` is carried back through the mark of `(n, m)` by `Marked.rangeOK` -/
theorem nmLoop_spec (pcm : Int) (pol : Policy) :
    ∀ (es : List Entry) (t : Bitmap) (rem : Int) (sel : List (Int × Int)) (r : Int), t.WF →
      nmLoop pcm pol t rem es = .ok (sel, r) →
      r = rem - sumInt (sel.map (·.2)) ∧
      (∀ nm ∈ sel, 0 < nm.2 ∧ RangeOK t nm.1 nm.2 ∧ t.nMin < nm.1 - nm.2 ∧ nm.1 + nm.2 - 1 ≤ t.nMax) ∧
      sel.Pairwise Disj ∧
      List.Forall₂ Honoured (es.take sel.length) sel := by
  intro es
  induction es with
  | nil =>
    rintro t rem sel r - h
    cases Except.pure_eq_ok_iff.1 h
    simp [sumInt]
  | cons e es ih =>
    intro t rem sel r hwf h
    rcases nmLoop_cons_eq_ok h with ⟨-, rfl, rfl⟩ | ⟨n, m, t', sel', hs, ha, hl, rfl⟩
    · simp [sumInt]
    · obtain ⟨hm, -, -, a3, a4, rfl⟩ := assignSpectrum_ok t t' n m hwf ha
      obtain ⟨hok, hhon⟩ := selectOne_sound hwf hs hm
      have M := t.markRange_marked (n - m) (n + m - 1)
      obtain ⟨i1, i2, i3, i4⟩ := ih _ (rem - m) sel' _ (M.wf hwf) hl
      -- free after the mark of `(n, m)`: free before it, and off the slots of `(n, m)`
      have back : ∀ nm ∈ sel', RangeOK t nm.1 nm.2 ∧ Disj (n, m) nm := fun nm hnm =>
        (M.rangeOK (i2 nm hnm).2.1).imp_right (Disj.of_forall hm (i2 nm hnm).1)
      refine ⟨?_, List.forall_mem_cons.2 ⟨⟨hm, hok, a3, a4⟩, fun nm hnm => ⟨(i2 nm hnm).1, (back nm hnm).1, (i2 nm hnm).2.2⟩⟩,
        List.pairwise_cons.2 ⟨fun nm hnm => (back nm hnm).2, i3⟩, List.Forall₂.cons hhon i4⟩
      simp only [List.map_cons, sumInt, List.foldr_cons] at i1 ⊢
      omega

/-! ### `Bitmap.__init__` -/

/-- `b` is the map that `Bitmap.__init__` builds from these arguments -/
structure Bitmap.Created (fMin fMax grid gb : Int) (cells : Option (List Cell)) (b : Bitmap) : Prop where
  wf : b.WF
  nMin : b.nMin = frequencyToN fMin grid
  nMax : b.nMax = frequencyToN fMax grid
  idxMin : b.idxMin = frequencyToN (fMin + gb)
  idxMax : b.idxMax = frequencyToN (fMax - gb)
  guardband : b.guardband = gb
  cells : ∀ c, cells = some c → b.cells = c

theorem Bitmap.create_ok {fMin fMax grid gb : Int} {cells : Option (List Cell)} {b : Bitmap}
    (h : Bitmap.create fMin fMax grid gb cells = .ok b) : b.Created fMin fMax grid gb cells := by
  unfold Bitmap.create at h
  split at h
  · cases h
  · cases cells with
    | none =>
      cases Except.pure_eq_ok_iff.1 h
      refine ⟨⟨rfl, ?_⟩, rfl, rfl, rfl, rfl, rfl, nofun⟩
      simp only [length_rep, length_intRange]
      omega
    | some c =>
      dsimp only at h
      split at h
      · next hlen =>
        cases Except.pure_eq_ok_iff.1 h
        exact ⟨⟨rfl, hlen⟩, rfl, rfl, rfl, rfl, rfl, fun _ hc => Option.some.inj hc⟩
      · cases h

/-- `Bitmap.__init__` accepts a cell list with one cell per index -/
theorem Bitmap.create_some {fMin fMax grid gb : Int} {c : List Cell} (hg : grid ≠ 0)
    (h : c.length = (frequencyToN fMax grid + 1 - frequencyToN fMin grid).toNat) :
    ∃ b, Bitmap.create fMin fMax grid gb (some c) = .ok b := by
  simp [Bitmap.create, hg, h, length_intRange]

/-! ### frequencies and slot indices -/

/-- `frequency_to_n(nvalue_to_frequency(n)) = n` for every grid step other than 0 -/
theorem frequency_roundtrip (n grid : Int) (hg : grid ≠ 0) : frequencyToN (nToFrequency n grid) grid = n := by
  unfold frequencyToN nToFrequency
  rw [Int.add_comm, Int.add_sub_cancel]
  exact Int.mul_tdiv_cancel n hg

theorem frequencyToN_nToFrequency (n : Int) : frequencyToN (nToFrequency n) = n :=
  frequency_roundtrip n _ (by decide)

theorem nToFrequency_add_mul (n k : Int) : nToFrequency n + k * defaultGrid = nToFrequency (n + k) := by
  simp only [nToFrequency, Int.add_mul, Int.add_assoc]

theorem nToFrequency_sub_mul (n k : Int) : nToFrequency n - k * defaultGrid = nToFrequency (n - k) := by
  simp only [nToFrequency, Int.sub_mul, Int.add_sub_assoc]

theorem frequencyToN_mono {f f' : Int} (h : f ≤ f') : frequencyToN f ≤ frequencyToN f' :=
  Int.tdiv_le_tdiv (by decide) (Int.sub_le_sub_right h _)

theorem frequencyToN_add_le (f k : Int) (hk : 0 ≤ k) : frequencyToN (f + k * defaultGrid) ≤ frequencyToN f + k := by
  rw [frequencyToN, show f + k * defaultGrid - anchorHz = f - anchorHz + k * defaultGrid by omega]
  exact truncDiv_add_mul_le (by decide) hk

theorem le_frequencyToN_sub (f k : Int) (hk : 0 ≤ k) : frequencyToN f - k ≤ frequencyToN (f - k * defaultGrid) := by
  have := frequencyToN_add_le (f - k * defaultGrid) k hk
  rw [Int.sub_add_cancel] at this
  omega

/-! ### `aggregate_oms_bitmap`: the test bitmap of a route -/

theorem getElem?_bitmapSum_free_iff (a b : List Cell) (i : Nat) :
    (bitmapSum a b)[i]? = some Cell.free ↔ a[i]? = some Cell.free ∧ b[i]? = some Cell.free := by
  rw [bitmapSum, List.getElem?_zipWith]
  cases a[i]? <;> cases b[i]? <;> simp

theorem aggCells_spec {s : List Oms} {L : Nat} (hL : ∀ o ∈ s, o.bm.cells.length = L) :
    ∀ {os : List Nat} {acc r : List Cell}, acc.length = L → aggCells s os acc = .ok r →
      r.length = L ∧ (∀ k ∈ os, ∃ o, s[k]? = some o) ∧
      ∀ i : Nat, r[i]? = some Cell.free ↔
        (acc[i]? = some Cell.free ∧ ∀ k ∈ os, ∀ o, s[k]? = some o → o.bm.cells[i]? = some Cell.free) := by
  intro os
  induction os with
  | nil =>
    intro acc r hacc h
    cases Except.pure_eq_ok_iff.1 h
    simp [hacc]
  | cons o os ih =>
    intro acc r hacc h
    unfold aggCells at h
    split at h
    · cases h
    · next x ho =>
      have hlen : (bitmapSum x.bm.cells acc).length = L := by
        rw [bitmapSum, List.length_zipWith, hL x (List.mem_of_getElem? ho), hacc, Nat.min_self]
      obtain ⟨i1, i2, i3⟩ := ih hlen h
      refine ⟨i1, List.forall_mem_cons.2 ⟨⟨x, ho⟩, i2⟩, fun i => ?_⟩
      simp only [i3 i, getElem?_bitmapSum_free_iff, List.forall_mem_cons, ho, Option.some.injEq, forall_eq']
      exact and_assoc.trans and_left_comm

/-- guard-band limits of the test bitmap built by `aggregate_oms_bitmap`: recomputed from the first/last slot index -/
def Bitmap.aggIdxMin (b : Bitmap) : Int := frequencyToN (nToFrequency b.nMin + b.guardband)
def Bitmap.aggIdxMax (b : Bitmap) : Int := frequencyToN (nToFrequency b.nMax - b.guardband)

/-- the OMS list as `build_oms_list` leaves it: every map well formed, all maps over the same index range with the same
    guard band, and the limits recomputed by the aggregate are not looser than the recorded ones -/
structure StateWF (s : List Oms) : Prop where
  wf : ∀ o ∈ s, o.bm.WF
  same : ∀ o ∈ s, ∀ o' ∈ s, o.bm.nMin = o'.bm.nMin ∧ o.bm.nMax = o'.bm.nMax ∧ o.bm.guardband = o'.bm.guardband
  guard : ∀ o ∈ s, o.bm.idxMin ≤ o.bm.aggIdxMin ∧ o.bm.aggIdxMax ≤ o.bm.idxMax

theorem StateWF.length_cells {s : List Oms} (hs : StateWF s) {o o' : Oms} (ho : o ∈ s) (ho' : o' ∈ s) :
    o.bm.cells.length = o'.bm.cells.length := by
  rw [o.bm.length_cells (hs.wf o ho), o'.bm.length_cells (hs.wf o' ho'), (hs.same o ho o' ho').1,
    (hs.same o ho o' ho').2.1]

/-- a call of `aggregate_oms_bitmap` that returned: the route has a first OMS `o0`, the cells of the OMS that follow were
    summed onto its cells, and `Bitmap.__init__` built the map from them over the slot range of `o0` -/
theorem aggregate_eq_ok {path : List Nat} {s : List Oms} {t : Bitmap} (h : aggregate path s = .ok t) :
    ∃ p0 rest o0 cells, path = p0 :: rest ∧ s[p0]? = some o0 ∧ aggCells s rest o0.bm.cells = .ok cells ∧
      Bitmap.create (nToFrequency o0.bm.nMin) (nToFrequency o0.bm.nMax) defaultGrid o0.bm.guardband (some cells) = .ok t := by
  unfold aggregate at h
  split at h
  · cases h
  · next p0 rest =>
    split at h
    · cases h
    · next o0 h0 =>
      obtain ⟨cells, hc, h⟩ := Except.bind_eq_ok.1 h
      exact ⟨p0, rest, o0, cells, rfl, h0, hc, h⟩

/-- the test bitmap `t` that `aggregate_oms_bitmap` builds for a route over a well-formed state, read on the state: it is
    well formed, covers the slot range of the OMS of the route with the guard-band limits recomputed from that range, and
    **a slot is free in `t` exactly when it is free on every OMS of the route** -/
theorem aggregate_spec (s : List Oms) (hs : StateWF s) (path : List Nat) (t : Bitmap) (h : aggregate path s = .ok t) :
    path ≠ [] ∧ t.WF ∧ (∀ k ∈ path, ∃ o, s[k]? = some o) ∧
    (∀ k ∈ path, ∀ o, s[k]? = some o → t.nMin = o.bm.nMin ∧ t.nMax = o.bm.nMax ∧ t.idxMin = o.bm.aggIdxMin ∧
      t.idxMax = o.bm.aggIdxMax) ∧
    (∀ x, t.cellAt x = some Cell.free ↔ ∀ k ∈ path, ∀ o, s[k]? = some o → o.bm.cellAt x = some Cell.free) := by
  obtain ⟨p0, rest, o0, cells, rfl, h0, hc, h⟩ := aggregate_eq_ok h
  have hm0 : o0 ∈ s := List.mem_of_getElem? h0
  obtain ⟨-, c2, c3⟩ := aggCells_spec (fun o ho => hs.length_cells ho hm0) rfl hc
  have C := Bitmap.create_ok h
  have e1 : t.nMin = o0.bm.nMin := C.nMin.trans (frequencyToN_nToFrequency _)
  have e2 : t.nMax = o0.bm.nMax := C.nMax.trans (frequencyToN_nToFrequency _)
  refine ⟨List.cons_ne_nil _ _, C.wf, List.forall_mem_cons.2 ⟨⟨o0, h0⟩, c2⟩, fun k _ o ho => ?_, fun x => ?_⟩
  · obtain ⟨a1, a2, a3⟩ := hs.same o (List.mem_of_getElem? ho) o0 hm0
    simp only [e1, e2, C.idxMin, C.idxMax, Bitmap.aggIdxMin, Bitmap.aggIdxMax, a1, a2, a3, and_self]
  · -- all maps start at the index `o0.bm.nMin`: below it none has a cell, from it on compare position by position
    rcases o0.bm.index_cases x with hlt | ⟨j, rfl⟩
    · refine iff_of_false (by rw [t.cellAt_of_lt (e1 ▸ hlt)]; nofun) fun h => ?_
      have := h p0 List.mem_cons_self o0 h0
      rw [o0.bm.cellAt_of_lt hlt] at this
      cases this
    · have hcell : ∀ o ∈ s, o.bm.cellAt (o0.bm.nMin + j) = o.bm.cells[j]? := fun o ho => by
        rw [← (hs.same o ho o0 hm0).1, o.bm.cellAt_add]
      rw [forall₄_congr fun k _ o ho => by rw [hcell o (List.mem_of_getElem? ho)], ← e1, t.cellAt_add, C.cells _ rfl, c3 j]
      simp only [List.forall_mem_cons, h0, Option.some.injEq, forall_eq']

/-! ### applying the selected slots on the OMS of the route -/

theorem foldlM_assign {sel : List (Int × Int)} : ∀ {b b' : Bitmap}, b.WF →
    sel.foldlM (fun b nm => assignSpectrum b nm.1 nm.2) b = .ok b' →
    b' = b.markAll sel ∧ ∀ nm ∈ sel, 0 < nm.2 ∧ b.idxMin ≤ nm.1 ∧ nm.1 ≤ b.idxMax ∧ b.nMin < nm.1 - nm.2 ∧
      nm.1 + nm.2 - 1 ≤ b.nMax := by
  induction sel with
  | nil =>
    rintro b b' - h
    cases Except.pure_eq_ok_iff.1 h
    simp [Bitmap.markAll]
  | cons nm sel ih =>
    intro b b' hwf h
    obtain ⟨b1, ha, h⟩ := Except.bind_eq_ok.1 h
    obtain ⟨hm, a1, a2, a3, a4, rfl⟩ := assignSpectrum_ok b b1 _ _ hwf ha
    obtain ⟨i1, i2⟩ := ih ((b.markRange_marked _ _).wf hwf) h
    exact ⟨i1, List.forall_mem_cons.2 ⟨⟨hm, a1, a2, a3, a4⟩, i2⟩⟩

/-- the state of an OMS of the route after an accepted request -/
def Oms.served (o : Oms) (sel : List (Int × Int)) (id : String) (nb : Int) : Oms :=
  { bm := o.bm.markAll sel, nbChannels := o.nbChannels + nb, services := o.services ++ [id] }

theorem applyOms_spec {o o' : Oms} {sel : List (Int × Int)} {id : String} {nb : Int} (hwf : o.bm.WF)
    (h : applyOms o sel id nb = .ok o') :
    o' = o.served sel id nb ∧ ∀ nm ∈ sel, 0 < nm.2 ∧ o.bm.idxMin ≤ nm.1 ∧ nm.1 ≤ o.bm.idxMax ∧
      o.bm.nMin < nm.1 - nm.2 ∧ nm.1 + nm.2 - 1 ≤ o.bm.nMax := by
  simp only [applyOms, Except.bind_eq_ok, Except.pure_eq_ok_iff] at h
  obtain ⟨b, hf, rfl⟩ := h
  obtain ⟨rfl, i2⟩ := foldlM_assign hwf hf
  exact ⟨rfl, i2⟩

theorem applyPath_spec (sel : List (Int × Int)) (id : String) (nb : Int) :
    ∀ (path : List Nat) (s s' : List Oms), path.Nodup → (∀ o ∈ s, o.bm.WF) → applyPath sel id nb path s = .ok s' →
      s'.length = s.length ∧
      (∀ k, k ∉ path → s'[k]? = s[k]?) ∧
      (∀ k ∈ path, ∃ o, s[k]? = some o ∧ s'[k]? = some (o.served sel id nb) ∧
        ∀ nm ∈ sel, 0 < nm.2 ∧ o.bm.idxMin ≤ nm.1 ∧ nm.1 ≤ o.bm.idxMax ∧ o.bm.nMin < nm.1 - nm.2 ∧
          nm.1 + nm.2 - 1 ≤ o.bm.nMax) := by
  intro path
  induction path with
  | nil =>
    rintro s s' - - h
    cases Except.pure_eq_ok_iff.1 h
    simp
  | cons p path ih =>
    intro s s' hnd hwf h
    unfold applyPath at h
    split at h
    · cases h
    · next x hp =>
      obtain ⟨x', ha, h⟩ := Except.bind_eq_ok.1 h
      have hxm : x ∈ s := List.mem_of_getElem? hp
      obtain ⟨rfl, hb⟩ := applyOms_spec (hwf x hxm) ha
      obtain ⟨hpn, hnd'⟩ := List.nodup_cons.1 hnd
      have hwf1 : ∀ o ∈ s.set p (x.served sel id nb), o.bm.WF := fun o ho =>
        (List.mem_or_eq_of_mem_set ho).elim (hwf o) fun e => e ▸ (x.bm.markAll_marked sel).wf (hwf x hxm)
      obtain ⟨i1, i2, i3⟩ := ih _ s' hnd' hwf1 h
      have hplt : p < s.length := (List.getElem?_eq_some_iff.1 hp).1
      refine ⟨by rw [i1, List.length_set], fun k hk => ?_, fun k hk => ?_⟩
      · rw [i2 k (fun hh => hk (List.mem_cons_of_mem _ hh)), List.getElem?_set_ne (fun e : p = k => hk (e ▸ List.mem_cons_self))]
      · rcases List.mem_cons.1 hk with rfl | hk
        · exact ⟨x, hp, by rw [i2 k hpn, List.getElem?_set_self hplt], hb⟩
        · obtain ⟨o, ho, ho', hbb⟩ := i3 k hk
          rw [List.getElem?_set_ne (fun e : p = k => hpn (e ▸ hk))] at ho
          exact ⟨o, ho, ho', hbb⟩

end Gnpy.Slots
