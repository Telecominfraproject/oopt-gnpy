import GnpyModel
import Mathlib.Data.List.Perm.Subperm
import Mathlib.Data.List.Nodup
import Mathlib.Data.List.Range
import Mathlib.Tactic.Ring
/- walks, simple paths and routes (C11, C12): the Boolean checkers, the DFS enumeration, path weights, `argmin`,
   `validPaths`, `explicit_path`, forced hops.  Model: GnpyModel/Route.lean. -/
namespace Gnpy

/-- a list without repetition that ends on its first entry is that entry alone -/
theorem eq_nil_of_getLast?_cons_self {α : Type} {x : α} : ∀ {l : List α}, (x :: l).Nodup →
    (x :: l).getLast? = some x → l = []
  | [], _, _ => rfl
  | _ :: _, hnd, hl => by
    rw [List.getLast?_cons_cons] at hl
    exact absurd (List.mem_of_getLast? hl) (List.nodup_cons.1 hnd).1

end Gnpy
namespace Gnpy.Route

/-! ### walks, simple paths, routes -/

theorem isWalkB_iff {g : Graph} : ∀ {p}, isWalkB g p = true ↔ IsWalk g p
  | [] | [_] => by simp [isWalkB, IsWalk]
  | u :: v :: rest => by
    have ih := isWalkB_iff (g := g) (p := v :: rest)
    simp [isWalkB, IsWalk, ih]

theorem nodupB_iff : ∀ {p : List V}, nodupB p = true ↔ p.Nodup
  | [] => by simp [nodupB]
  | x :: xs => by
    have ih := nodupB_iff (p := xs)
    simp [nodupB, ih]

section
variable {g : Graph} {s t : V} {avoid inc p : List V}

theorem IsSimplePath.head (h : IsSimplePath g s t avoid p) : p.head? = some s := h.1
theorem IsSimplePath.last (h : IsSimplePath g s t avoid p) : p.getLast? = some t := h.2.1
theorem IsSimplePath.walk (h : IsSimplePath g s t avoid p) : IsWalk g p := h.2.2.1
theorem IsSimplePath.nodup (h : IsSimplePath g s t avoid p) : p.Nodup := h.2.2.2.1
theorem IsSimplePath.avoids (h : IsSimplePath g s t avoid p) : ∀ x ∈ p, x ∉ avoid := h.2.2.2.2

theorem IsRoute.head (h : IsRoute g s t inc p) : p.head? = some s := h.1
theorem IsRoute.last (h : IsRoute g s t inc p) : p.getLast? = some t := h.2.1
theorem IsRoute.walk (h : IsRoute g s t inc p) : IsWalk g p := h.2.2.1
theorem IsRoute.nodup (h : IsRoute g s t inc p) : p.Nodup := h.2.2.2.1
theorem IsRoute.sublist (h : IsRoute g s t inc p) : inc.Sublist p := h.2.2.2.2

/-- a route crossing `inc` is a route -/
theorem IsRoute.toNil (h : IsRoute g s t inc p) : IsRoute g s t [] p :=
  ⟨h.head, h.last, h.walk, h.nodup, p.nil_sublist⟩

/-- avoiding nothing and crossing nothing: the simple paths from `s` to `t` are the routes with empty include list -/
theorem isSimplePath_nil_iff : IsSimplePath g s t [] p ↔ IsRoute g s t [] p := by
  simp only [IsSimplePath, IsRoute, List.not_mem_nil, not_false_eq_true, implies_true, List.nil_sublist]

end

/-- the recursion `pathsFrom` follows; `x ∉ q` on the left is `x` added to `avoid` on the right -/
theorem isSimplePath_cons {g : Graph} {s t x : V} {vis q : List V} :
    IsSimplePath g s t vis (x :: q) ↔
      x = s ∧ x ∉ vis ∧ (x = t ∧ q = [] ∨ ∃ v ∈ g.succ x, IsSimplePath g v t (x :: vis) q) := by
  cases q with
  | nil => simp [IsSimplePath, IsWalk, and_comm]
  | cons v r =>
    simp only [IsSimplePath, IsWalk, List.head?_cons, Option.some.injEq, List.getLast?_cons_cons,
      List.nodup_cons (a := x), List.forall_mem_cons (a := x), reduceCtorEq, and_false, false_or]
    constructor
    · rintro ⟨rfl, hlast, ⟨hedge, hwalk⟩, ⟨hxq, hnd⟩, hxvis, hvis⟩
      exact ⟨rfl, hxvis, v, hedge, rfl, hlast, hwalk, hnd, fun y hy hm =>
        (List.mem_cons.1 hm).elim (fun e => hxq (e ▸ hy)) (hvis y hy)⟩
    · rintro ⟨rfl, hxvis, _, hedge, rfl, hlast, hwalk, hnd, havoid⟩
      exact ⟨rfl, hlast, ⟨hedge, hwalk⟩, ⟨fun hm => havoid _ hm List.mem_cons_self, hnd⟩, hxvis, fun y hy hm =>
        havoid y hy (List.mem_cons_of_mem _ hm)⟩

theorem pathsFrom_sound (g : Graph) (t : V) : ∀ (fuel : Nat) (u : V) (vis : List V) (p : List V),
    p ∈ pathsFrom g t fuel u vis → IsSimplePath g u t vis p := by
  intro fuel
  induction fuel with
  | zero => intro u vis p h; cases h
  | succ n ih =>
    intro u vis p h
    unfold pathsFrom at h
    split at h
    next => cases h
    next hu =>
      split at h
      next hut =>
        cases List.mem_singleton.1 h
        exact isSimplePath_cons.2 ⟨hut.symm, hut ▸ hu, .inl ⟨rfl, rfl⟩⟩
      next hut =>
        simp only [List.mem_flatMap, List.mem_filter, List.mem_map] at h
        obtain ⟨v, ⟨hv, _⟩, q, hq, rfl⟩ := h
        exact isSimplePath_cons.2 ⟨rfl, hu, .inr ⟨v, hv, ih v _ q hq⟩⟩

theorem pathsFrom_complete (g : Graph) (t : V) : ∀ (fuel : Nat) (u : V) (vis : List V) (p : List V),
    IsSimplePath g u t vis p → p.length ≤ fuel → p ∈ pathsFrom g t fuel u vis := by
  intro fuel
  induction fuel with
  | zero =>
    intro u vis p h hl
    cases List.length_eq_zero_iff.1 (Nat.le_zero.1 hl)
    cases h.head
  | succ n ih =>
    intro u vis p h hl
    cases p with
    | nil => cases h.head
    | cons x q =>
      obtain ⟨rfl, hu, hq⟩ := isSimplePath_cons.1 h
      unfold pathsFrom
      rw [if_neg hu]
      rcases hq with ⟨rfl, rfl⟩ | ⟨v, hv, hq⟩
      · simp
      · -- `t` and `v` lie on `q`, which avoids `x`
        have hne : x ≠ t := fun e => hq.avoids t (List.mem_of_getLast? hq.last) (e ▸ List.mem_cons_self)
        have hvx : v ∉ x :: vis := hq.avoids v (List.mem_of_mem_head? hq.head)
        rw [if_neg hne]
        simp only [List.mem_flatMap, List.mem_filter, List.mem_map]
        exact ⟨v, ⟨hv, by simpa using hvx⟩, q, ih v _ q hq (Nat.le_of_succ_le_succ hl), rfl⟩

/-- every node of a walk but the first has a predecessor on the walk -/
theorem walk_has_pred {g : Graph} : ∀ {y : V} {l : List V} {x : V}, IsWalk g (y :: l) → x ∈ l →
    ∃ w ∈ y :: l, x ∈ g.succ w
  | _, [], x, _, hx => by simp at hx
  | y, z :: l, x, hw, hx => by
    rcases List.mem_cons.1 hx with rfl | hx
    · exact ⟨y, by simp, hw.1⟩
    · obtain ⟨w, hwm, hws⟩ := walk_has_pred hw.2 hx
      exact ⟨w, List.mem_cons_of_mem _ hwm, hws⟩

/-- the nodes of a walk with at least one edge are nodes of the graph: the first has a successor, every other one a
predecessor -/
theorem walk_nodes_lt {g : Graph} (hg : g.WF) : ∀ {p : List V}, IsWalk g p → 2 ≤ p.length → ∀ x ∈ p, x < g.n
  | [], _, hl => by simp at hl
  | [_], _, hl => by simp at hl
  | u :: v :: rest, hw, _ => fun x hx => by
    rcases List.mem_cons.1 hx with rfl | hx
    · exact (hg _ _ hw.1).1
    · obtain ⟨w, _, hws⟩ := walk_has_pred hw hx
      exact (hg w _ hws).2

/-- the fuel `g.n + 1` of `simplePaths` is enough: a loop-free walk with an edge stays among the `g.n` nodes of the
graph, and a single node, of the graph or not, is one node -/
theorem simple_length_le {g : Graph} (hg : g.WF) {p : List V} (hw : IsWalk g p) (hnd : p.Nodup) :
    p.length ≤ g.n + 1 := by
  by_cases h2 : 2 ≤ p.length
  · have hsub : p ⊆ List.range g.n := fun x hx => List.mem_range.2 (walk_nodes_lt hg hw h2 x hx)
    have := (List.subperm_of_subset hnd hsub).length_le
    rw [List.length_range] at this
    omega
  · omega

/-- **enumeration is sound**: everything `simplePaths` lists is a loop-free walk from `s` to `t` -/
theorem simplePaths_sound (g : Graph) (s t : V) (p : List V) (h : p ∈ simplePaths g s t) :
    IsSimplePath g s t [] p :=
  pathsFrom_sound g t _ s [] p h

/-- **enumeration is complete**: every loop-free walk from `s` to `t` of a well-formed graph is listed -/
theorem simplePaths_complete (g : Graph) (hg : g.WF) (s t : V) (p : List V) (h : IsSimplePath g s t [] p) :
    p ∈ simplePaths g s t :=
  pathsFrom_complete g t _ s [] p h (simple_length_le hg h.walk h.nodup)

theorem simplePaths_iff (g : Graph) (hg : g.WF) (s t : V) (p : List V) :
    p ∈ simplePaths g s t ↔ IsSimplePath g s t [] p :=
  ⟨simplePaths_sound g s t p, simplePaths_complete g hg s t p⟩

/-! ### weights -/

theorem pathSum_add (f h : V → V → Nat) : ∀ p : List V,
    pathSum (fun u v => f u v + h u v) p = pathSum f p + pathSum h p
  | [] | [_] => rfl
  | u :: v :: rest => by
    simp only [pathSum, pathSum_add f h (v :: rest)]
    omega

theorem pathSum_mul (c : Nat) (f : V → V → Nat) : ∀ p : List V,
    pathSum (fun u v => c * f u v) p = c * pathSum f p
  | [] | [_] => rfl
  | u :: v :: rest => by
    simp only [pathSum, pathSum_mul c f (v :: rest), Nat.mul_add]

theorem pathWeight_eq (g : Graph) (p : List V) : pathWeight g p = 100 * pathLen g p + pathPseudo g p := by
  rw [pathLen, pathPseudo, ← pathSum_mul, ← pathSum_add]
  rfl

theorem pathSum_dvd {k : Nat} {f : V → V → Nat} (h : ∀ u v, k ∣ f u v) : ∀ p : List V, k ∣ pathSum f p
  | [] | [_] => Nat.dvd_zero k
  | u :: v :: rest => Nat.dvd_add (h u v) (pathSum_dvd h (v :: rest))

theorem pathSum_le_length {f : V → V → Nat} (h : ∀ u v, f u v ≤ 1) : ∀ p : List V, pathSum f p ≤ p.length - 1
  | [] | [_] => Nat.zero_le _
  | u :: v :: rest => by
    have ih := pathSum_le_length h (v :: rest)
    have := h u v
    simp only [pathSum, List.length_cons] at ih ⊢
    omega

theorem argmin_none_iff {α : Type} {w : α → Nat} : ∀ {l : List α}, argmin w l = none ↔ l = []
  | [] => iff_of_true rfl rfl
  | a :: as => by
    rw [argmin]
    refine iff_of_false ?_ nofun
    split
    · nofun
    · split <;> nofun

/-- `argmin` answers a member of least weight (the first such member: ties go to the left, which is not stated) -/
theorem argmin_mem_le {α : Type} {w : α → Nat} : ∀ {l : List α} {x : α}, argmin w l = some x →
    x ∈ l ∧ ∀ y ∈ l, w x ≤ w y
  | a :: as, x, h => by
    rw [argmin] at h
    simp only [List.mem_cons, forall_eq_or_imp]
    split at h
    next hn =>
      -- `a` alone
      cases h
      cases argmin_none_iff.1 hn
      exact ⟨.inl rfl, Nat.le_refl _, nofun⟩
    next y hy =>
      -- `a` against `y`, a minimum of the rest
      obtain ⟨hym, hmin⟩ := argmin_mem_le hy
      split at h
      next hay => cases h; exact ⟨.inl rfl, Nat.le_refl _, fun z hz => Nat.le_trans hay (hmin z hz)⟩
      next hay => cases h; exact ⟨.inr hym, Nat.le_of_not_ge hay, hmin⟩

/-- `validPaths` are exactly the routes of the property statement -/
theorem validPaths_iff (g : Graph) (hg : g.WF) (s t : V) (inc p : List V) :
    p ∈ validPaths g s t inc ↔ IsRoute g s t inc p := by
  rw [validPaths, List.mem_filter, simplePaths_iff g hg, isSimplePath_nil_iff, List.isSublist_iff_sublist]
  exact ⟨fun h => ⟨h.1.head, h.1.last, h.1.walk, h.1.nodup, h.2⟩, fun h => ⟨h.toNil, h.sublist⟩⟩

/-! ### `explicit_path` -/

theorem uniqueOrdered_nodup (l : List V) : (uniqueOrdered l).Nodup :=
  List.foldlRecOn l _ List.nodup_nil fun acc h x _ => by
    split
    · exact h
    next hc => exact h.append (List.nodup_singleton x) (by simpa using hc)

/-- whatever `explicit_path` returns is a concatenation of OMS with repetitions removed that passed the final test -/
theorem explicitPath_eq_some {g : Graph} {omsOf : V → Option Nat} {els : Nat → List V} {sR dR : Option V}
    {inc : List V} {s t : V} {p : List V} (h : explicitPath g omsOf els sR dR inc s t = some p) :
    ∃ path, p = uniqueOrdered (path ++ [t]) ∧ isWalkB g p = true ∧ ispart inc p = true := by
  unfold explicitPath at h
  -- five tests in a row, each answering `none` when it fails
  split at h          -- the include list names an OMS
  · cases h
  split at h          -- both ROADMs are known
  on_goal 2 => cases h
  simp only at h
  split at h          -- the first OMS starts at the source ROADM, the last ends at the destination ROADM
  on_goal 2 => cases h
  split at h          -- every OMS starts where the one before it ends
  · cases h
  next path _ =>
    split at h        -- `isWalkB g p && ispart inc p`
    next hcond =>
      cases h
      exact ⟨path, rfl, Bool.and_eq_true_iff.1 hcond⟩
    next => cases h

/-! ### the disjointness oracle for one pair of requests -/

/-- the candidates of step 1 are the loop-free walks from `s` to `t` of at most 80 hops -/
theorem mem_candPaths (g : Graph) (hg : g.WF) (s t : V) (p : List V) :
    p ∈ candPaths g s t ↔ IsRoute g s t [] p ∧ p.length ≤ 81 := by
  simp only [candPaths, List.mem_filter, simplePaths_iff g hg, isSimplePath_nil_iff, decide_eq_true_eq]

theorem acceptable_iff (r : Req) (p : List V) : acceptable r p = true ↔ (r.strict = true → r.inc.Sublist p) := by
  unfold acceptable
  cases r.strict <;> simp

/-! ### forced hops: uniqueness of a route along line elements -/

/-- every hop `a → b` of the list is forced: `b` is the only successor of `a`, or `a` is the only predecessor of `b`
and `b` is known to be visited (`mem b`) -/
def ForcedChain (g : Graph) (mem : V → Prop) : List V → Prop
  | a :: b :: rest => (g.succ a = [b] ∨ ((∀ w, b ∈ g.succ w → w = a) ∧ mem b)) ∧ ForcedChain g mem (b :: rest)
  | _ => True

/-- a loop-free walk `x :: q` that ends where the forced chain `x :: p` ends is that chain (`mem` need only hold of
nodes of `q`) -/
theorem forced_path_unique {g : Graph} {mem : V → Prop} {t : V} : ∀ {x : V} {p q : List V}, IsWalk g (x :: q) →
    (x :: q).Nodup → (x :: p).Nodup → (x :: p).getLast? = some t → (x :: q).getLast? = some t →
    (∀ b ∈ p, mem b → b ∈ q) → ForcedChain g mem (x :: p) → q = p
  | x, [], q, _, hqnd, _, hpl, hql, _, _ => by
    cases hpl
    exact eq_nil_of_getLast?_cons_self hqnd hql
  | x, x1 :: rest, [], _, _, hpnd, hpl, hql, _, _ => by
    cases hql
    exact (eq_nil_of_getLast?_cons_self hpnd hpl).symm
  | x, x1 :: rest, y :: r, hqw, hqnd, hpnd, hpl, hql, hin, hf => by
    have hy : y = x1 := by
      rcases hf.1 with h1 | ⟨h1, h2⟩
      · exact List.mem_singleton.1 (h1 ▸ hqw.1)
      · -- `x1` is on `y :: r`; further down its predecessor `x` would be on `y :: r` too
        rcases List.mem_cons.1 (hin x1 List.mem_cons_self h2) with h | h
        · exact h.symm
        · obtain ⟨w, hwm, hws⟩ := walk_has_pred hqw.2 h
          exact absurd (h1 w hws ▸ hwm) (List.nodup_cons.1 hqnd).1
    subst hy
    rw [forced_path_unique hqw.2 hqnd.of_cons hpnd.of_cons hpl hql (fun b hb hm =>
      (List.mem_cons.1 (hin b (List.mem_cons_of_mem _ hb) hm)).resolve_left
        fun e => (List.nodup_cons.1 hpnd.of_cons).1 (e ▸ hb)) hf.2]

end Gnpy.Route
