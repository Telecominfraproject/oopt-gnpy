import GnpyModel
import GnpyProofs.Lemmas.Db
import GnpyProofs.Lemmas.ListIdioms
/-
Proof-side vocabulary and helper lemmas for C01/C02 (model: GnpyModel/Spectrum.lean), over ℝ.
-/
namespace Gnpy

/-- for the dilution factor `1 - nli / p` of `add_nli`: positive while the NLI stays below the channel power -/
theorem one_sub_div_pos {x p : ℝ} (hp : 0 < p) (hx : x < p) : 0 < 1 - x / p :=
  sub_pos.2 ((div_lt_one hp).2 hx)

namespace Spectrum

/-! ### vocabulary: the invariant and the guards -/

/-- the bookkeeping invariant of one channel: positive total power, three non-negative shares
that sum to one -/
def Inv (c : Chan ℝ) : Prop := 0 < c.p ∧ 0 ≤ c.s ∧ 0 ≤ c.a ∧ 0 ≤ c.n ∧ c.s + c.a + c.n = 1

theorem Inv.p_pos {c : Chan ℝ} (h : Inv c) : 0 < c.p := h.1
theorem Inv.shares_sum {c : Chan ℝ} (h : Inv c) : c.s + c.a + c.n = 1 := h.2.2.2.2

/-- there is signal left (needed to speak about ratios to the signal) -/
def Live (c : Chan ℝ) : Prop := Inv c ∧ 0 < c.s

/-- guard of one mutating call in state `c`: linear factors positive, added ASE non-negative,
added NLI non-negative and below the channel power (what the +10 dBm clause of the property is
about; the monitor measures it on the implementation) -/
def OpOk (c : Chan ℝ) : Op ℝ → Prop
  | .attLin g => 0 < g
  | .attDb _ => True
  | .gainLin g => 0 < g
  | .gainDb _ => True
  | .addAse e => 0 ≤ e
  | .addNli x => 0 ≤ x ∧ x < c.p

/-- every call of a sequence is guarded in the state it meets -/
def RunOk : List (Op ℝ) → Chan ℝ → Prop
  | [], _ => True
  | o :: r, c => OpOk c o ∧ RunOk r (step c o)

/-- every element of a path is guarded in the state it meets -/
def PathOk : List (Elem ℝ) → Chan ℝ → Prop
  | [], _ => True
  | e :: r, c => RunOk e.ops c ∧ PathOk r (e.apply c)

/-! ### the mutating calls: `attDb`; `add_ase` and `add_nli` as dilutions -/

/-- an attenuation in dB is the linear attenuation by `1 / db2lin d` -/
theorem attDb_eq (c : Chan ℝ) (d : ℝ) : c.attDb d = c.attLin (1 / db2lin d) := by
  rw [Chan.attDb, Nat.cast_one]

/-- What `add_ase` and `add_nli` do to the shares: `c'` carries the shares of `c` diluted by the factor `k`, plus a
fresh ASE share `u` and a fresh NLI share `v` (a convex combination of the old shares with pure noise).  C01 and C02
are both consequences: the simplex is convex, and dilution multiplies signal and noise alike while `u`, `v` only add
noise. -/
structure Diluted (c c' : Chan ℝ) (k u v : ℝ) : Prop where
  s_eq : c'.s = c.s * k
  a_eq : c'.a = c.a * k + u
  n_eq : c'.n = c.n * k + v
  u_nonneg : 0 ≤ u
  v_nonneg : 0 ≤ v
  total : k + u + v = 1

namespace Diluted
variable {c c' : Chan ℝ} {k u v : ℝ}

theorem inv (h : Diluted c c' k u v) (hc : Inv c) (hk : 0 ≤ k) (hp : 0 < c'.p) : Inv c' := by
  obtain ⟨_, hs, ha, hn, hsum⟩ := hc
  refine ⟨hp, ?_, ?_, ?_, ?_⟩
  · rw [h.s_eq]; exact mul_nonneg hs hk
  · rw [h.a_eq]; exact add_nonneg (mul_nonneg ha hk) h.u_nonneg
  · rw [h.n_eq]; exact add_nonneg (mul_nonneg hn hk) h.v_nonneg
  · rw [h.s_eq, h.a_eq, h.n_eq]; linear_combination k * hsum + h.total

theorem live (h : Diluted c c' k u v) (hc : Live c) (hk : 0 < k) (hp : 0 < c'.p) : Live c' :=
  ⟨h.inv hc.1 hk.le hp, by rw [h.s_eq]; exact mul_pos hc.2 hk⟩

theorem nsrAse_eq (h : Diluted c c' k u v) (hk : k ≠ 0) : c'.nsrAse = c.nsrAse + u / (c.s * k) := by
  rw [Chan.nsrAse, h.a_eq, h.s_eq, add_div, mul_div_mul_right _ _ hk]; rfl

theorem nsrNli_eq (h : Diluted c c' k u v) (hk : k ≠ 0) : c'.nsrNli = c.nsrNli + v / (c.s * k) := by
  rw [Chan.nsrNli, h.n_eq, h.s_eq, add_div, mul_div_mul_right _ _ hk]; rfl

end Diluted

open Chan in
theorem addAse_diluted (c : Chan ℝ) (e : ℝ) (hp : 0 < c.p) (he : 0 ≤ e) :
    Diluted c (c.addAse e) (c.p / (c.p + e)) (e / (c.p + e)) 0 where
  s_eq := rfl
  a_eq := by simp only [addAse]; ring
  n_eq := (add_zero _).symm
  u_nonneg := by positivity
  v_nonneg := le_rfl
  total := by rw [add_zero, ← add_div, div_self]; positivity

open Chan in
theorem addNli_diluted (c : Chan ℝ) (x : ℝ) (hp : 0 < c.p) (hx : 0 ≤ x) :
    Diluted c (c.addNli x) (1 - x / c.p) 0 (x / c.p) where
  s_eq := by simp only [addNli, Nat.cast_one]
  a_eq := by simp only [addNli, Nat.cast_one, add_zero]
  n_eq := by simp only [addNli, Nat.cast_one]
  u_nonneg := le_rfl
  v_nonneg := by positivity
  total := by ring

/-! ### runs and paths -/

theorem run_nil (c : Chan ℝ) : run [] c = c := rfl
theorem run_cons (o : Op ℝ) (r : List (Op ℝ)) (c : Chan ℝ) : run (o :: r) c = run r (step c o) := rfl
theorem run_append (l r : List (Op ℝ)) (c : Chan ℝ) : run (l ++ r) c = run r (run l c) :=
  List.foldl_append

/-- what every guarded step preserves, every guarded run preserves -/
theorem run_induction {P : Chan ℝ → Prop} (hstep : ∀ c o, P c → OpOk c o → P (step c o)) {ops : List (Op ℝ)}
    {c : Chan ℝ} (h : P c) (hok : RunOk ops c) : P (run ops c) := by
  induction ops generalizing c with
  | nil => exact h
  | cons o r ih => exact ih (hstep c o h hok.1) hok.2

theorem runOk_append (l r : List (Op ℝ)) (c : Chan ℝ) :
    RunOk (l ++ r) c ↔ RunOk l c ∧ RunOk r (run l c) := by
  induction l generalizing c with
  | nil => simp [RunOk, run_nil]
  | cons o l ih => simp [RunOk, run_cons, ih, and_assoc]

theorem path_nil (c : Chan ℝ) : path [] c = c := rfl
theorem path_cons (e : Elem ℝ) (r : List (Elem ℝ)) (c : Chan ℝ) : path (e :: r) c = path r (e.apply c) := rfl

theorem path_append (l r : List (Elem ℝ)) (c : Chan ℝ) : path (l ++ r) c = path r (path l c) :=
  List.foldl_append

theorem path_eq_run (es : List (Elem ℝ)) (c : Chan ℝ) : path es c = run (es.flatMap Elem.ops) c := by
  induction es generalizing c with
  | nil => rfl
  | cons e r ih => rw [path_cons, ih, List.flatMap_cons, run_append]; rfl

theorem pathOk_iff_runOk (es : List (Elem ℝ)) (c : Chan ℝ) : PathOk es c ↔ RunOk (es.flatMap Elem.ops) c := by
  induction es generalizing c with
  | nil => simp [PathOk, RunOk]
  | cons e r ih => rw [List.flatMap_cons, runOk_append, PathOk, ih]; rfl

theorem pathOk_append (l r : List (Elem ℝ)) (c : Chan ℝ) :
    PathOk (l ++ r) c ↔ PathOk l c ∧ PathOk r (path l c) := by
  rw [pathOk_iff_runOk, pathOk_iff_runOk, pathOk_iff_runOk, List.flatMap_append, runOk_append, path_eq_run]

/-! ### band merge: `sortK`, `mux` -/

theorem sortK_perm (l : List (Int × Chan ℝ)) : (sortK l).Perm l :=
  sortK_eq l ▸ List.perm_insertionSort _ l

theorem sortK_sorted (l : List (Int × Chan ℝ)) : (sortK l).Pairwise (fun u v => u.1 ≤ v.1) :=
  sortK_eq l ▸ List.pairwise_insertionSort _ l

theorem mux_cons_cons (x y : List (Int × Chan ℝ)) (r : List (List (Int × Chan ℝ))) :
    mux (x :: y :: r) = (mux (y :: r)).map (add2 x) := by
  rw [mux]
  cases mux (y :: r) <;> rfl

theorem mux_isSome (parts : List (List (Int × Chan ℝ))) (h : parts ≠ []) : (mux parts).isSome := by
  match parts, h with
  | [], h => exact absurd rfl h
  | [x], _ => rfl
  | x :: y :: r, _ =>
    rw [mux_cons_cons, Option.isSome_map]; exact mux_isSome (y :: r) (List.cons_ne_nil _ _)

/-! ### `update_snr` -/

theorem snrAddedLin_eq (args : List ℝ) : snrAddedLin args = (args.map fun s => db2lin (-s)).sum := by
  rw [snrAddedLin, Nat.cast_zero, List.sum_eq_foldl, List.foldl_map]

end Spectrum
end Gnpy
