import GnpyModel
import GnpyProofs.Lemmas.Fiber
import GnpyProofs.Lemmas.ListIdioms
/-
Lemmas for the Raman sentences of C05 (model: namespace Gnpy.Raman in GnpyModel/Fiber.lean), over ℝ, with the proof-side
vocabulary about that model in which Props/C05 states them: the shapes `VZero`, `MZero`, `Rect`, `ZeroRect`; `scaleBy`
and the per-frequency factors `eulerFactor`, `pertFactor` that the two methods apply at zero Raman efficiency; `rowBound`.
(`gridSpan`, `gridSq`, `gridLoss`, `GridOk` only bundle what the theorems about `eulerFactor` assume and conclude: they
stand in Props/C05.)
-/
namespace Gnpy.Raman

/-! ### the model's vector operations are `zipWith`: entrywise facts and lengths come from there -/

/-- a vector of zeros, of any length -/
def VZero (v : List ℝ) : Prop := ∀ x ∈ v, x = 0
/-- a matrix of zeros (Raman efficiencies switched off) -/
def MZero (m : List (List ℝ)) : Prop := ∀ r ∈ m, VZero r

theorem vadd_eq (u v : List ℝ) : vadd u v = List.zipWith (· + ·) u v :=
  eq_zipWith (fun _ => rfl) (fun u => by cases u <;> rfl) (fun _ _ _ _ => rfl) u v

theorem vmul_eq (u v : List ℝ) : vmul u v = List.zipWith (· * ·) u v :=
  eq_zipWith (fun _ => rfl) (fun u => by cases u <;> rfl) (fun _ _ _ _ => rfl) u v

theorem vdiv_eq (u v : List ℝ) : vdiv u v = List.zipWith (· / ·) u v :=
  eq_zipWith (fun _ => rfl) (fun u => by cases u <;> rfl) (fun _ _ _ _ => rfl) u v

@[simp] theorem length_vadd (u v : List ℝ) : (vadd u v).length = min u.length v.length := by simp [vadd_eq]
@[simp] theorem length_vmul (u v : List ℝ) : (vmul u v).length = min u.length v.length := by simp [vmul_eq]
@[simp] theorem length_vscale (c : ℝ) (v : List ℝ) : (vscale c v).length = v.length := by simp [vscale]
@[simp] theorem length_zeros (n : Nat) : (zeros n : List ℝ).length = n := by simp [zeros]

theorem vadd_nonneg (u v : List ℝ) (hu : ∀ x ∈ u, 0 ≤ x) (hv : ∀ x ∈ v, 0 ≤ x) : ∀ x ∈ vadd u v, 0 ≤ x :=
  vadd_eq u v ▸ forall_mem_zipWith fun a ha b hb => add_nonneg (hu a ha) (hv b hb)

theorem vmul_nonneg (u v : List ℝ) (hu : ∀ x ∈ u, 0 ≤ x) (hv : ∀ x ∈ v, 0 ≤ x) : ∀ x ∈ vmul u v, 0 ≤ x :=
  vmul_eq u v ▸ forall_mem_zipWith fun a ha b hb => mul_nonneg (hu a ha) (hv b hb)

theorem vdiv_nonneg (u v : List ℝ) (hu : ∀ x ∈ u, 0 ≤ x) (hv : ∀ x ∈ v, 0 < x) : ∀ x ∈ vdiv u v, 0 ≤ x :=
  vdiv_eq u v ▸ forall_mem_zipWith fun a ha b hb => div_nonneg (hu a ha) (hv b hb).le

theorem vadd_abs_le {bu bv : ℝ} {u v : List ℝ} (hu : ∀ x ∈ u, |x| ≤ bu) (hv : ∀ x ∈ v, |x| ≤ bv) :
    ∀ x ∈ vadd u v, |x| ≤ bu + bv :=
  vadd_eq u v ▸ forall_mem_zipWith fun a ha b hb => (abs_add_le a b).trans (add_le_add (hu a ha) (hv b hb))

theorem vzero_vadd (u v : List ℝ) (hu : VZero u) (hv : VZero v) : VZero (vadd u v) :=
  vadd_eq u v ▸ forall_mem_zipWith fun a ha b hb => by rw [hu a ha, hv b hb, add_zero]

theorem vzero_vmul_left (u v : List ℝ) (hu : VZero u) : VZero (vmul u v) :=
  vmul_eq u v ▸ forall_mem_zipWith fun a ha b _ => by rw [hu a ha, zero_mul]

theorem vzero_vmul_right : ∀ (u v : List ℝ), VZero v → VZero (vmul u v) := fun u v hv =>
  vmul_eq u v ▸ forall_mem_zipWith fun a _ b hb => by rw [hv b hb, mul_zero]

theorem vzero_vscale_zero (v : List ℝ) : VZero (vscale 0 v) := by simp [VZero, vscale]

theorem vzero_zeros (n : Nat) : VZero (zeros n : List ℝ) := by simp [VZero, zeros]
theorem zeros_nonneg (n : Nat) : ∀ x ∈ (zeros n : List ℝ), 0 ≤ x := fun x hx => (vzero_zeros n x hx).ge

/-! ### `scaleBy`, in which the results at zero Raman efficiency are stated: a `zipWith` as well -/

/-- `p_a · F(a)` on every frequency -/
def scaleBy (F : ℝ → ℝ) : List ℝ → List ℝ → List ℝ
  | pa :: ps, a :: as => pa * F a :: scaleBy F ps as
  | _, _ => []

theorem scaleBy_eq (F : ℝ → ℝ) (ps as : List ℝ) : scaleBy F ps as = List.zipWith (fun p a => p * F a) ps as :=
  eq_zipWith (fun _ => rfl) (fun u => by cases u <;> rfl) (fun _ _ _ _ => rfl) ps as

@[simp] theorem length_scaleBy (F : ℝ → ℝ) (ps as : List ℝ) : (scaleBy F ps as).length = min ps.length as.length := by
  simp [scaleBy_eq]

theorem scaleBy_one {ps as : List ℝ} (h : ps.length = as.length) : scaleBy (fun _ => 1) ps as = ps := by
  rw [scaleBy_eq]
  apply List.ext_getElem <;> simp [h]

theorem scaleBy_scaleBy (F G : ℝ → ℝ) (ps as : List ℝ) :
    scaleBy F (scaleBy G ps as) as = scaleBy (fun a => G a * F a) ps as := by
  simp only [scaleBy_eq]
  apply List.ext_getElem <;> simp [mul_assoc]

/-! ### explicit Euler with zero Raman efficiency -/

theorem dot_zero_left : ∀ (r p : List ℝ), VZero r → dot r p = 0
  | [], _, _ | _ :: _, [], _ => by simp [dot]
  | x :: xs, y :: ys, h => by
    rw [dot, h x (List.mem_cons_self ..), zero_mul, zero_add]
    exact dot_zero_left xs ys fun z hz => h z (List.mem_cons_of_mem _ hz)

/-- per-frequency factor of the Euler scheme without Raman: `Π (1 − α Δz_k) · lumped_k` -/
def eulerFactor (a : ℝ) : List (ℝ × ℝ) → ℝ
  | g0 :: g1 :: rest => (1 - a * (g1.1 - g0.1)) * g0.2 * eulerFactor a (g1 :: rest)
  | _ => 1

/-- one Euler step without Raman efficiency is the plain attenuation step on every frequency -/
theorem eulerStepGo_zero (pAll : List ℝ) (dz l : ℝ) : ∀ (ps as : List ℝ) (rows : List (List ℝ)),
    MZero rows → rows.length = ps.length →
    eulerStepGo pAll dz l ps as rows = scaleBy (fun a => (1 - a * dz) * l) ps as
  | [], _, _, _, _ | _ :: _, [], _, _, _ => by simp [eulerStepGo, scaleBy]
  | _ :: _, _ :: _, [], _, hl => by simp at hl
  | pa :: ps, a :: as, row :: rows, hz, hl => by
    rw [eulerStepGo, scaleBy, dot_zero_left row pAll (hz row (List.mem_cons_self ..)),
      eulerStepGo_zero pAll dz l ps as rows (fun r hr => hz r (List.mem_cons_of_mem _ hr)) (by simpa using hl)]
    congr 1; ring

/-! ### rectangular matrices and the matrix product `rowTimes` -/

def Rect (T : Nat) (m : List (List ℝ)) : Prop := ∀ r ∈ m, r.length = T

/-- whatever holds of the zero vector and is kept by `acc ↦ c·m_b + acc` holds of `Σ_b c_b · m_b` -/
theorem rowTimes_induction {P : List ℝ → Prop} (T : Nat) : ∀ (row : List ℝ) (m : List (List ℝ)), P (zeros T) →
    (∀ c ∈ row, ∀ mb ∈ m, ∀ acc, P acc → P (vadd (vscale c mb) acc)) → P (rowTimes T row m)
  | [], _, h0, _ | _ :: _, [], h0, _ => by simpa [rowTimes] using h0
  | c :: cs, mb :: ms, h0, hs =>
    hs c (List.mem_cons_self ..) mb (List.mem_cons_self ..) _
      (rowTimes_induction T cs ms h0 fun c' hc mb' hm => hs c' (List.mem_cons_of_mem _ hc) mb' (List.mem_cons_of_mem _ hm))

theorem rowTimes_nonneg {T : Nat} {row : List ℝ} {m : List (List ℝ)} (hr : ∀ c ∈ row, 0 ≤ c)
    (hm : ∀ r ∈ m, ∀ x ∈ r, 0 ≤ x) : ∀ x ∈ rowTimes T row m, 0 ≤ x :=
  rowTimes_induction T row m (zeros_nonneg T) fun c hc mb hmb acc hacc =>
    vadd_nonneg (vscale c mb) acc
      (List.forall_mem_map.2 fun w hw => mul_nonneg (hr c hc) (hm mb hmb w hw)) hacc

theorem vzero_rowTimes {T : Nat} {row : List ℝ} {m : List (List ℝ)} (h : VZero row) : VZero (rowTimes T row m) :=
  rowTimes_induction T row m (vzero_zeros T) fun c hc mb _ _ hacc =>
    vzero_vadd _ _ (h c hc ▸ vzero_vscale_zero mb) hacc

theorem length_rowTimes {T : Nat} {row : List ℝ} {m : List (List ℝ)} (hm : Rect T m) :
    (rowTimes T row m).length = T :=
  rowTimes_induction (P := fun v => v.length = T) T row m (length_zeros T) fun c _ mb hmb acc hacc => by
    simp [hm mb hmb, hacc]

/-! ### the effective length: row `b` of `eff_length` is `(1 − exp(−α_b z)) / α_b` along the grid -/

theorem effLenM_eq (alpha zs : List ℝ) :
    effLenM alpha zs = alpha.map fun a => zs.map fun z => 1 / a * (1 - Real.exp (-(a * z))) := by
  simp only [effLenM, expzM, alphazM, List.map_map, ← List.map_prod_left_eq_zip, Function.comp_def, transc_exp,
    Nat.cast_one]

/-- every entry of the row of `eff_length` belonging to `α_b` lies in `[0, 1/α_b]` -/
theorem effLen_bounds {a z : ℝ} (ha : 0 < a) (hz : 0 ≤ z) :
    0 ≤ 1 / a * (1 - Real.exp (-(a * z))) ∧ 1 / a * (1 - Real.exp (-(a * z))) ≤ 1 / a := by
  have h2 : Real.exp (-(a * z)) ≤ 1 := Real.exp_le_one_iff.2 (neg_nonpos.2 (mul_nonneg ha.le hz))
  have ha' : 0 ≤ 1 / a := (one_div_pos.2 ha).le
  exact ⟨mul_nonneg ha' (sub_nonneg.2 h2),
    mul_le_of_le_one_right ha' (sub_le_self _ (Real.exp_pos _).le)⟩

theorem effLenM_nonneg (alpha zs : List ℝ) (ha : ∀ a ∈ alpha, 0 < a) (hz : ∀ z ∈ zs, 0 ≤ z) :
    ∀ r ∈ effLenM alpha zs, ∀ x ∈ r, 0 ≤ x := by
  simp only [effLenM_eq, List.forall_mem_map]
  exact fun a h z h' => (effLen_bounds (ha a h) (hz z h')).1

theorem effLenM_bounds (alpha zs : List ℝ) (ha : ∀ a ∈ alpha, 0 < a) (hz : ∀ z ∈ zs, 0 ≤ z) :
    List.Forall₂ (fun mb b => ∀ x ∈ mb, |x| ≤ b) (effLenM alpha zs) (alpha.map (fun a => 1 / a)) := by
  rw [effLenM_eq, List.forall₂_map_left_iff, List.forall₂_map_right_iff, List.forall₂_same]
  refine fun a h => List.forall_mem_map.2 fun z h' => ?_
  obtain ⟨h0, h1⟩ := effLen_bounds (ha a h) (hz z h')
  rwa [abs_of_nonneg h0]

/-! ### linearity of the first-order term in the launch powers -/

theorem vscale_zeros (t : ℝ) (n : Nat) : vscale t (zeros n : List ℝ) = zeros n := by
  simp [vscale, zeros]

theorem vscale_vscale (s t : ℝ) (v : List ℝ) : vscale s (vscale t v) = vscale (s * t) v := by
  simp only [vscale, List.map_map, Function.comp_def, mul_assoc]

theorem vscale_vadd (t : ℝ) (u v : List ℝ) : vscale t (vadd u v) = vadd (vscale t u) (vscale t v) := by
  simp only [vscale, vadd_eq, List.map_zipWith, List.zipWith_map_left, List.zipWith_map_right, mul_add]

theorem vmul_vscale_right (t : ℝ) (u v : List ℝ) : vmul u (vscale t v) = vscale t (vmul u v) := by
  simp only [vscale, vmul_eq, List.map_zipWith, List.zipWith_map_right, mul_left_comm]

theorem rowTimes_vscale (T : Nat) (t : ℝ) : ∀ (row : List ℝ) (m : List (List ℝ)),
    rowTimes T (vscale t row) m = vscale t (rowTimes T row m)
  | [], _ | _ :: _, [] => (vscale_zeros t T).symm
  | c :: cs, mb :: ms => by
    rw [rowTimes, vscale_vadd, vscale_vscale, ← rowTimes_vscale T t cs ms]
    rfl

theorem gamma1_scale (alpha : List ℝ) (cr : List (List ℝ)) (p0 zs : List ℝ) (t : ℝ) :
    gamma1 alpha cr (vscale t p0) zs = (gamma1 alpha cr p0 zs).map (vscale t) := by
  simp only [gamma1, crTimes, crpM, List.map_map, Function.comp_def, vmul_vscale_right, rowTimes_vscale]

/-! ### the model's matrices are rectangular; a Raman term of zeros leaves the exponent as it is -/

def ZeroRect (T : Nat) (m : List (List ℝ)) : Prop := ∀ r ∈ m, r.length = T ∧ VZero r

theorem ZeroRect.rect {T : Nat} {m : List (List ℝ)} (h : ZeroRect T m) : Rect T m := fun r hr => (h r hr).1

theorem rect_effLenM (alpha zs : List ℝ) : Rect zs.length (effLenM alpha zs) := by
  simp only [Rect, effLenM_eq, List.forall_mem_map, List.length_map, implies_true]

theorem rect_expzM (alpha zs : List ℝ) : Rect zs.length (expzM alpha zs) := by
  simp only [Rect, expzM, alphazM, List.forall_mem_map, List.length_map, implies_true]

theorem rect_expo0 (alpha zs : List ℝ) : Rect zs.length (expo0 alpha zs) := by
  simp only [Rect, expo0, alphazM, List.forall_mem_map, List.length_map, implies_true]

theorem zeroRect_crTimes {T : Nat} {crp m : List (List ℝ)} (hz : MZero crp) (hm : Rect T m) :
    ZeroRect T (crTimes T crp m) :=
  List.forall_mem_map.2 fun row hrow => ⟨length_rowTimes hm, vzero_rowTimes (hz row hrow)⟩

theorem mzero_crpM (cr : List (List ℝ)) (p0 : List ℝ) (hz : MZero cr) : MZero (crpM cr p0) :=
  List.forall_mem_map.2 fun row hrow => vzero_vmul_left row p0 (hz row hrow)

/-- `vadd u v` maps `p ↦ p.1 + p.2` over `zip u v`; with `v` zero that is `p ↦ p.1`, and the first components of the zip are
`u` -/
theorem vadd_vzero_right {u v : List ℝ} (h : u.length = v.length) (hz : VZero v) : vadd u v = u := by
  rw [vadd_eq, ← List.map_uncurry_zip_eq_zipWith]
  exact (List.map_congr_left fun p hp => (congrArg (p.1 + ·) (hz p.2 (List.of_mem_zip hp).2)).trans (add_zero p.1)).trans
    (List.map_fst_zip h.le)

/-- the same one level up: `madd x g` maps `vadd` over `zip x g` -/
theorem madd_zeroRect {T : Nat} {x g : List (List ℝ)} (hl : x.length = g.length) (hx : Rect T x) (hg : ZeroRect T g) :
    madd x g = x :=
  (List.map_congr_left fun r hr => vadd_vzero_right
      (by rw [hx _ (List.of_mem_zip hr).1, (hg _ (List.of_mem_zip hr).2).1]) (hg _ (List.of_mem_zip hr).2).2).trans
    (List.map_fst_zip hl.le)

/-- a Raman term whose efficiencies `crp` vanish leaves the plain exponent `−α z` as it is -/
theorem madd_expo0_crTimes {alpha zs : List ℝ} {crp m : List (List ℝ)} (hz : MZero crp) (hl : crp.length = alpha.length)
    (hm : Rect zs.length m) : madd (expo0 alpha zs) (crTimes zs.length crp m) = expo0 alpha zs :=
  madd_zeroRect (by simp only [expo0, alphazM, crTimes, List.length_map, hl]) (rect_expo0 alpha zs)
    (zeroRect_crTimes hz hm)

/-! ### lengths under cumulative trapezoid integration -/

theorem length_trapGo : ∀ (acc : ℝ) (ys zs : List ℝ), ys.length = zs.length →
    (trapGo acc ys zs).length = zs.length - 1
  | _, [], [], _ => rfl
  | _, [_], [_], _ => rfl
  | acc, y0 :: y1 :: ys, z0 :: z1 :: zs, h => by
    rw [trapGo, List.length_cons, length_trapGo _ (y1 :: ys) (z1 :: zs) (by simpa using h)]; rfl
  | _, [], _ :: _, h | _, _ :: _, [], h | _, [_], _ :: _ :: _, h | _, _ :: _ :: _, [_], h => by simp at h

theorem length_trapCum (ys zs : List ℝ) (h : ys.length = zs.length) (hz : zs ≠ []) :
    (trapCum ys zs).length = zs.length := by
  rw [trapCum, List.length_cons, length_trapGo _ ys zs h]
  exact Nat.sub_add_cancel (List.length_pos_iff.2 hz)

/-- rows computed from rows of the grid's length and integrated along the grid have that length -/
theorem rect_trapCum_map {β : Type*} {P : β → Prop} (zs : List ℝ) (hzs : zs ≠ []) (l : List β) (f : β → List ℝ)
    (hl : ∀ x ∈ l, P x) (hf : ∀ x, P x → (f x).length = zs.length) :
    Rect zs.length (l.map fun x => trapCum (f x) zs) :=
  List.forall_mem_map.2 fun x hx => length_trapCum _ _ (hf x (hl x hx)) hzs

/-! ### size of the first-order term -/

/-- `Σ_b |c_b| · B_b` -/
def rowBound : List ℝ → List ℝ → ℝ
  | c :: cs, b :: bs => |c| * b + rowBound cs bs
  | _, _ => 0

theorem rowBound_nonneg : ∀ (row bs : List ℝ), (∀ b ∈ bs, 0 ≤ b) → 0 ≤ rowBound row bs
  | [], _, _ | _ :: _, [], _ => by simp [rowBound]
  | c :: cs, b :: bs, h =>
    add_nonneg (mul_nonneg (abs_nonneg c) (h b List.mem_cons_self))
      (rowBound_nonneg cs bs fun y hy => h y (List.mem_cons_of_mem _ hy))

theorem rowTimes_abs_le {T : Nat} : ∀ {row : List ℝ} {m : List (List ℝ)} {bs : List ℝ},
    List.Forall₂ (fun mb b => ∀ x ∈ mb, |x| ≤ b) m bs →
    ∀ x ∈ rowTimes T row m, |x| ≤ rowBound row bs
  | c :: cs, _, _, .cons hb hrest =>
    vadd_abs_le
      (List.forall_mem_map.2 fun w hw => by rw [abs_mul]; exact mul_le_mul_of_nonneg_left (hb w hw) (abs_nonneg c))
      (rowTimes_abs_le hrest)
  | [], _, _, _ | _ :: _, _, _, .nil => fun x hx => by
    rw [vzero_zeros T x (by simpa [rowTimes] using hx)]; simp [rowBound]

/-! ### the perturbative loop over the intervals between lumped losses -/

theorem lastD_eq (d : ℝ) : ∀ l : List ℝ, lastD d l = l.getLastD d
  | [] => rfl
  | [_] => rfl
  | _ :: y :: t => by
    show lastD d (y :: t) = _
    rw [lastD_eq d (y :: t), List.getLastD_cons, List.getLastD_cons, List.getLastD_cons]

theorem lastD_append_cons (d x : ℝ) (u v : List ℝ) : lastD d (u ++ x :: v) = lastD x v := by
  rw [lastD_eq, lastD_eq, List.getLastD_eq_getLast?, List.getLast?_append_cons, ← List.getLastD_eq_getLast?,
    List.getLastD_cons]

theorem lastD_map_of_ne_nil (f : ℝ → ℝ) (d e : ℝ) (l : List ℝ) (hl : l ≠ []) :
    lastD d (l.map f) = f (lastD e l) := by
  obtain ⟨x, t, rfl⟩ := List.exists_cons_of_ne_nil hl
  rw [lastD_eq, lastD_eq, List.map_cons, List.getLastD_cons, List.getLastD_cons, List.getLastD_map]

/-- the powers that `perturbGo` hands to the next interval (its `pin'`: the last column of `powerInterval`, launched with
`pin · ll`) when the exponent of the interval is the plain `−α z` -/
theorem powerInterval_lastColumn {order : Nat} {alpha : List ℝ} {cr : List (List ℝ)} {pin zs : List ℝ} (ll : ℝ)
    (he : expoInterval order alpha cr (pin.map (fun x => x * ll)) zs = expo0 alpha zs) (hzs : zs ≠ [])
    (h : pin.length = alpha.length) :
    ((powerInterval order alpha cr (pin.map (fun x => x * ll)) zs).zip pin).map (fun x => lastD x.2 x.1)
      = scaleBy (fun a => ll * Real.exp (-(a * lastD 0 zs))) pin alpha := by
  rw [powerInterval, he]
  clear he
  induction pin generalizing alpha with
  | nil => simp [scaleBy]
  | cons p ps ih =>
    obtain _ | ⟨a, as⟩ := alpha
    · simp at h
    simp only [expo0, alphazM, List.map_cons, List.zip_cons_cons, scaleBy] at ih ⊢
    rw [ih (by simpa using h), List.map_map, List.map_map, lastD_map_of_ne_nil _ p 0 zs hzs]
    simp only [Function.comp, transc_exp, mul_assoc]

/-- the walk to the next lumped loss: every factor is 1 and it runs to the end, or it stops behind some `h` before which
every factor is 1 and hands `h` on to the next interval as well (that `h` itself is not 1 plays no part below) -/
theorem splitGo_cases (l : List (ℝ × ℝ)) :
    ((∀ h ∈ l, h.2 = 1) ∧ splitGo l = (l, [])) ∨
    (∃ pre h t, l = pre ++ h :: t ∧ (∀ x ∈ pre, x.2 = 1) ∧ splitGo l = (pre ++ [h], h :: t)) := by
  induction l with
  | nil => exact .inl ⟨nofun, rfl⟩
  | cons h t ih =>
    by_cases h1 : h.2 = 1
    · have hs : splitGo (h :: t) = (h :: (splitGo t).1, (splitGo t).2) := by simp [splitGo, h1]
      rcases ih with ⟨hall, ht⟩ | ⟨pre, k, t', rfl, hpre, ht⟩
      · exact .inl ⟨List.forall_mem_cons.2 ⟨h1, hall⟩, by rw [hs, ht]⟩
      · exact .inr ⟨h :: pre, k, t', rfl, List.forall_mem_cons.2 ⟨h1, hpre⟩, by rw [hs, ht, List.cons_append]⟩
    · exact .inr ⟨[], h, t, rfl, nofun, by simp [splitGo, lt_or_gt_of_ne h1]⟩

/-- per-frequency factor accumulated by the perturbative loop at zero Raman efficiency -/
noncomputable def pertFactor (a : ℝ) : Nat → ℝ → List (ℝ × ℝ) → ℝ
  | 0, _, _ => 1
  | fuel + 1, ll, grid =>
    match grid with
    | [] => 1
    | [_] => 1
    | g0 :: _ =>
      ll * Real.exp (-(a * lastD 0 ((takeInterval grid).1.map (fun g => g.1 - g0.1))))
        * pertFactor a fuel (match (takeInterval grid).2 with
            | [] => 1
            | h :: _ => h.2) (takeInterval grid).2

theorem pertFactor_nil (a : ℝ) (fuel : Nat) (ll : ℝ) : pertFactor a fuel ll [] = 1 := by
  cases fuel <;> simp [pertFactor]

theorem pertFactor_single (a : ℝ) (fuel : Nat) (ll : ℝ) (x : ℝ × ℝ) : pertFactor a fuel ll [x] = 1 := by
  cases fuel <;> simp [pertFactor]

/-- closed form of the accumulated factor: `ll · exp(−α (z_last − z_first)) · Π (lumped factors strictly inside)` -/
theorem pertFactor_eq (a : ℝ) (fuel : Nat) (ll : ℝ) (g0 : ℝ × ℝ) (rest : List (ℝ × ℝ))
    (hlen : rest.length < fuel) (hne : rest ≠ []) :
    pertFactor a fuel ll (g0 :: rest)
      = ll * Real.exp (-(a * (lastD g0.1 (rest.map (·.1)) - g0.1))) * Gnpy.Fiber.prodL (rest.dropLast.map (·.2)) := by
  induction fuel generalizing ll g0 rest with
  | zero => exact absurd hlen (Nat.not_lt_zero _)
  | succ fuel ih =>
    obtain ⟨g1, rest', rfl⟩ := List.exists_cons_of_ne_nil hne
    have hz : ∀ (l : List (ℝ × ℝ)), lastD 0 ((g0 :: l).map (fun g => g.1 - g0.1))
        = lastD g0.1 (l.map (·.1)) - g0.1 := fun l => by
      rw [lastD_eq, lastD_eq, List.map_cons, List.getLastD_cons, ← List.getLastD_map (f := fun z => z - g0.1),
        List.map_map]; rfl
    simp only [pertFactor, takeInterval]
    rcases splitGo_cases (g1 :: rest') with ⟨hall, hs⟩ | ⟨pre, h, t, hl, hpre, hs⟩
    · rw [hs, hz, pertFactor_nil, mul_one, Gnpy.Fiber.prodL_ones (List.forall_mem_map.2 fun x hx => hall x (List.mem_of_mem_dropLast hx)),
        mul_one]
    · rw [hs, hz, hl]
      -- the interval ends at `h`; the loop goes on from `h` with `h`'s loss, over `t`
      cases t with
      | nil => simp [pertFactor_single, lastD_append_cons, lastD, Gnpy.Fiber.prodL_ones (List.forall_mem_map.2 hpre)]
      | cons t0 t' =>
        have hlt : (t0 :: t').length < fuel := by
          rw [hl, List.length_append, List.length_cons] at hlen; omega
        simp only [ih h.2 h (t0 :: t') hlt (List.cons_ne_nil _ _), List.map_append, List.map_cons, List.map_nil,
          lastD_append_cons, lastD, List.dropLast_append_cons, List.dropLast_cons_cons, Gnpy.Fiber.prodL_append,
          Gnpy.Fiber.prodL_ones (List.forall_mem_map.2 hpre), Gnpy.Fiber.prodL]
        generalize lastD h.1 _ = L
        rw [show -(a * (L - g0.1)) = -(a * (h.1 - g0.1)) + -(a * (L - h.1)) by ring, Real.exp_add]; ring

/-! ### spontaneous Raman scattering: the constants and the Bose–Einstein factor are positive; one pump's term -/

theorem planckH_pos : (0:ℝ) < planckH := by simp only [planckH, Nat.cast_ofNat]; norm_num
theorem boltzK_pos : (0:ℝ) < boltzK := by simp only [boltzK, Nat.cast_ofNat]; norm_num

/-- the Bose–Einstein factor: for a pump above the channel (`df > 0`) `η = 1/(e^x − 1) > 0`, `x = h·df/(k·T)` -/
theorem etaBE_pos (df temp : ℝ) (hd : 0 < df) (ht : 0 < temp) : 0 < etaBE df temp := by
  simp only [etaBE, transc_exp, Nat.cast_one]
  exact div_pos_of_neg_of_neg (neg_lt_zero.2 one_pos)
    (sub_neg.2 (Real.one_lt_exp_iff.2 (div_pos (mul_pos planckH_pos hd) (mul_pos boltzK_pos ht))))

/-- a pump above the channel contributes `2 h B f (1 + η) · cr · ∫ P_p / loss`, with a positive prefactor; any other
pump is masked out -/
theorem sprsTerm_eq (temp baud f : ℝ) (loss z : List ℝ) (p : PumpAt ℝ) :
    sprsTerm temp baud f loss z p =
      if 0 < p.f - f then 2 * planckH * baud * f * (1 + etaBE (p.f - f) temp) * p.cr * trapz (vdiv p.profile loss) z
      else 0 := by
  simp only [sprsTerm, Nat.cast_ofNat, Nat.cast_one, Nat.cast_zero]
  split_ifs <;> simp

end Gnpy.Raman
