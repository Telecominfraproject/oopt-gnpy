import GnpyModel
import GnpyProofs.RealInst
import GnpyProofs.Lemmas.RoundHE
/-
The lemma file of GnpyModel/Design.lean (the amplifier recurrence of auto-design, C09) and of GnpyModel/Redesign.lean
(its repetition on an exported design, C17), all over ℝ.
The real-number instance of `Rint` (Python's `round(x, 0)`): `realRint`, which is `HE.rintR` (`realRint_eq_rintR`) and
takes its lemmas and the bounds of the decimal roundings from Lemmas/RoundHE.lean;
`pmax`/`pmin`/`truthy` as `max`/`min`/`getD`; what `computeTargets` (compute_gain_power_and_tilt_target) and `ampStep`
(set_one_amplifier) return, field by field, so that the statements about one amplifier follow by linear arithmetic from
these equations; the vocabulary of the redesign fixpoint (`FitsAll`, `SamePoint`) with `ampStep_imposed`, the step on
which it rests.
-/
namespace Gnpy

theorem abs_sub_mul_le {a b e s : ℝ} (h : |a - b| ≤ e) (hs : 0 ≤ s) : |a * s - b * s| ≤ e * s := by
  rw [← sub_mul, abs_mul, abs_of_nonneg hs]
  exact mul_le_mul_of_nonneg_right h hs

/-- `min(0, cap − x)`: what has to be added to `x` to bring it down to `cap`, and nothing more -/
theorem min_zero_sub_spec (cap x : ℝ) :
    x + min 0 (cap - x) ≤ cap ∧ (x ≤ cap → min 0 (cap - x) = 0) ∧ (cap < x → x + min 0 (cap - x) = cap) :=
  ⟨by linarith [min_le_right 0 (cap - x)], fun h => min_eq_left (sub_nonneg.2 h),
    fun h => by rw [min_eq_right (sub_nonpos.2 h.le), add_sub_cancel]⟩

end Gnpy

namespace Gnpy.Chain

/-! ### Python's `round`, `max`, `min` and truthiness over ℝ -/

/-- nearest integer, ties to even -/
noncomputable def realRint (x : ℝ) : ℝ :=
  if x - (⌊x⌋ : ℝ) < 1 / 2 then (⌊x⌋ : ℝ)
  else if 1 / 2 < x - (⌊x⌋ : ℝ) then (⌊x⌋ : ℝ) + 1
  else if Even ⌊x⌋ then (⌊x⌋ : ℝ) else (⌊x⌋ : ℝ) + 1

noncomputable instance : Rint ℝ := ⟨realRint⟩

@[simp] theorem rint_real (x : ℝ) : Rint.rint x = realRint x := rfl

/-- `realRint` is `HE.rintR` (`numpy.rint`), which carries the lemmas -/
theorem realRint_eq_rintR : realRint = HE.rintR := rfl

theorem realRint_int (x : ℝ) : ∃ n : ℤ, realRint x = (n : ℝ) := (HE.rintR_spec x).imp fun _ h => h.1

theorem realRint_eq_of_abs_lt {x : ℝ} {n : ℤ} (h : |(n : ℝ) - x| < 1 / 2) : realRint x = n :=
  realRint_eq_rintR ▸ HE.rintR_eq_of_abs_lt h

theorem realRint_intCast (n : ℤ) : realRint (n : ℝ) = n := realRint_eq_of_abs_lt (by simp)

-- `round1 x` is `rint (x * c) / c` with `c` the cast natural number `((10:ℕ):ℝ)`; likewise `round2`, `round6`
theorem abs_round1_sub_le (x : ℝ) : |round1 x - x| ≤ 1 / 20 :=
  (HE.abs_rintR_mul_div_sub_le x (c := ((10:ℕ):ℝ)) (by norm_num)).trans (by norm_num)

theorem abs_round2_sub_le (x : ℝ) : |round2 x - x| ≤ 1 / 200 :=
  (HE.abs_rintR_mul_div_sub_le x (c := ((100:ℕ):ℝ)) (by norm_num)).trans (by norm_num)

theorem abs_round6_sub_le (x : ℝ) : |round6 x - x| ≤ 1 / 2000000 :=
  (HE.abs_rintR_mul_div_sub_le x (c := ((1000000:ℕ):ℝ)) (by norm_num)).trans (by norm_num)

theorem pmax_eq (a b : ℝ) : pmax a b = max a b := (max_def_lt a b).symm

theorem pmin_eq (a b : ℝ) : pmin a b = min a b := (min_def_lt b a).symm.trans (min_comm b a)

theorem truthy_eq (v : Option ℝ) : truthy v = v.getD 0 := by
  cases v with
  | none => exact Nat.cast_zero
  | some x =>
    simp only [truthy, Nat.cast_zero, Option.getD_some, ← ne_iff_lt_or_gt, ite_eq_left_iff, not_not]
    exact fun h => h.symm

/-! ### what `targetPower`, `computeTargets` and `ampStep` return, field by field -/

/-- before anything but a ROADM: the rounded slope rule, clamped -/
theorem targetPower_eq (c : Cfg ℝ) (l : ℝ) :
    targetPower c false l = min c.dpHi (max c.dpLo (round2float ((l - c.lossRef) * c.slope) c.dpStep)) := by
  rw [targetPower, if_neg Bool.false_ne_true, pmin_eq, pmax_eq]

variable (c : Cfg ℝ) (pref prefTotal pd pv : ℝ) (a : AmpIn ℝ)

/-- the targets are the tuple (gain, power, offset, VOA).  In both modes the gain (`.1`) closes the budget for the offset
(`.2.2.1`), and the VOA (`.2.2.2`) is the operator's -/
theorem computeTargets_eq :
    (computeTargets c prefTotal pd pv a).1
      = a.nodeLoss + (computeTargets c prefTotal pd pv a).2.2.1 - pd + pv + a.user.inVoa.getD 0 ∧
    (computeTargets c prefTotal pd pv a).2.2.2 = a.user.outVoa.getD 0 := by
  unfold computeTargets
  simp only [truthy_eq]
  split <;> exact ⟨by ring, rfl⟩

/-- in each of its three branches the reduction is `min(0, headroom)` -/
theorem powerReduction_eq (g pt dp : ℝ) :
    powerReduction c prefTotal pd pv a g pt dp = min 0
      (if a.user.variety == "" then min (a.sel.pMax - pt) (a.sel.gainFlatmax + c.extGain - g)
       else if c.powerMode then a.sel.pMax - (prefTotal + dp)
       else a.sel.pMax - (prefTotal + pd - a.nodeLoss - pv + g)) := by
  simp only [powerReduction, pmin_eq, Nat.cast_zero]
  split_ifs
  · -- `min(min(pin + flatmax + ext, p_max) − pt, 0)` with `pin = pt − g`: the subtraction goes inside the `min`
    rw [min_comm _ (0:ℝ), ← min_sub_sub_right, min_comm (a.sel.pMax - pt)]
    congr 2
    ring
  · rfl
  · rfl

/-- the VOA optimisation adds one and the same amount to the VOA, the gain and the offset -/
theorem ampStep_shift :
    (ampStep c pref prefTotal pd pv a).gain
      = (ampStep c pref prefTotal pd pv a).gain0 + (ampStep c pref prefTotal pd pv a).reduction
        + ((ampStep c pref prefTotal pd pv a).outVoa - (ampStep c pref prefTotal pd pv a).retVoa) ∧
    (ampStep c pref prefTotal pd pv a).dpInt
      = (ampStep c pref prefTotal pd pv a).retDp
        + ((ampStep c pref prefTotal pd pv a).outVoa - (ampStep c pref prefTotal pd pv a).retVoa) := by
  simp only [ampStep, (computeTargets_eq c prefTotal pd pv a).2]
  -- the three conditions of the VOA optimisation; in each of the eight cases both sides are the same sum
  cases a.user.outVoa <;> cases c.powerMode <;> cases a.sel.outVoaAuto <;> simp

/-- the VOA optimisation acts only on request: operator VOA absent, power mode, model with `out_voa_auto` -/
theorem ampStep_outVoa (h : ¬ (a.user.outVoa = none ∧ c.powerMode = true ∧ a.sel.outVoaAuto = true)) :
    (ampStep c pref prefTotal pd pv a).outVoa = a.user.outVoa.getD 0 := by
  simp only [ampStep]
  cases hv : a.user.outVoa with
  | some x => rfl
  | none =>
    simp only [hv, true_and] at h
    simp [h]

/-- on request the VOA takes up the headroom the reduced targets leave to p_max and to the flat gain, rounded to the VOA
step, less the margin, and is never negative -/
theorem ampStep_outVoa_auto (h : a.user.outVoa = none ∧ c.powerMode = true ∧ a.sel.outVoaAuto = true) :
    (ampStep c pref prefTotal pd pv a).outVoa
      = max (round2float (min (a.sel.pMax - (ampStep c pref prefTotal pd pv a).powerTarget)
          (a.sel.gainFlatmax
            - ((ampStep c pref prefTotal pd pv a).gain0 + (ampStep c pref prefTotal pd pv a).reduction)))
        c.voaStep - c.voaMargin) 0 := by
  simp only [ampStep, h.1, h.2.1, h.2.2, and_self, if_true, pmax_eq, pmin_eq, Nat.cast_zero]

theorem ampStep_retDp :
    (ampStep c pref prefTotal pd pv a).retDp
      = (ampStep c pref prefTotal pd pv a).dp0 + (ampStep c pref prefTotal pd pv a).reduction := rfl

theorem ampStep_inVoa : (ampStep c pref prefTotal pd pv a).inVoa = a.user.inVoa.getD 0 := by
  simp only [ampStep, Nat.cast_zero]

theorem ampStep_reduction :
    (ampStep c pref prefTotal pd pv a).reduction
      = powerReduction c prefTotal pd pv a (ampStep c pref prefTotal pd pv a).gain0
          (ampStep c pref prefTotal pd pv a).powerTarget (ampStep c pref prefTotal pd pv a).dp0 := rfl

theorem ampStep_retVoa : (ampStep c pref prefTotal pd pv a).retVoa = a.user.outVoa.getD 0 :=
  (computeTargets_eq c prefTotal pd pv a).2

/-- without the VOA optimisation the shift of `ampStep_shift` vanishes: the gain is the target plus the reduction, `_delta_p`
the returned offset -/
theorem ampStep_shift_zero (h : ¬ (a.user.outVoa = none ∧ c.powerMode = true ∧ a.sel.outVoaAuto = true)) :
    (ampStep c pref prefTotal pd pv a).gain
      = (ampStep c pref prefTotal pd pv a).gain0 + (ampStep c pref prefTotal pd pv a).reduction ∧
    (ampStep c pref prefTotal pd pv a).dpInt = (ampStep c pref prefTotal pd pv a).retDp := by
  have hs := ampStep_shift c pref prefTotal pd pv a
  rwa [ampStep_outVoa c pref prefTotal pd pv a h, ampStep_retVoa, sub_self, add_zero, add_zero] at hs

theorem ampStep_gain0 :
    (ampStep c pref prefTotal pd pv a).gain0
      = a.nodeLoss + (ampStep c pref prefTotal pd pv a).dp0 - pd + pv + a.user.inVoa.getD 0 :=
  (computeTargets_eq c prefTotal pd pv a).1

/-- unless the operator's gain rules (gain mode), the offset is the operator's `delta_p`, else the power rule -/
theorem ampStep_dp0 (h : c.powerMode = true ∨ a.user.gain = none) :
    (ampStep c pref prefTotal pd pv a).dp0
      = a.user.deltaP.getD (targetPower c a.nextIsRoadm a.nextLoss + a.user.outVoa.getD 0) := by
  show (computeTargets c prefTotal pd pv a).2.2.1 = _
  unfold computeTargets
  simp only [truthy_eq]
  split
  · next g hg hm =>
    -- gain mode with an operator gain: what `h` excludes
    rcases h with h | h
    · exact absurd (hm ▸ h) Bool.false_ne_true
    · exact absurd (hg ▸ h) (Option.some_ne_none g)
  · cases a.user.deltaP <;> rfl

/-- gain mode with an operator gain: that gain is the target -/
theorem ampStep_gain0_user {g : ℝ} (hm : c.powerMode = false) (hg : a.user.gain = some g) :
    (ampStep c pref prefTotal pd pv a).gain0 = g := by
  show (computeTargets c prefTotal pd pv a).1 = _
  simp only [computeTargets, hm, hg]

theorem ampStep_deltaP :
    (ampStep c pref prefTotal pd pv a).deltaP
      = if c.powerMode then some (ampStep c pref prefTotal pd pv a).dpInt else none := by
  simp only [ampStep]
  cases c.powerMode <;> rfl

/-- **an operating point imposed in full is kept**: operator VOA `v`, gain `g`, offset `d` (power mode) and model, with `g`
closing the budget for `d` and the model not saturated — `set_one_amplifier` returns exactly `g`, `d`, `v` -/
theorem ampStep_imposed (v g d : ℝ) (hvar : (a.user.variety == "") = false) (hov : a.user.outVoa = some v)
    (hg : a.user.gain = some g) (hd : c.powerMode = true → a.user.deltaP = some d)
    (hbud : g = a.nodeLoss + d - pd + pv + a.user.inVoa.getD 0)
    (hfit : (if c.powerMode then prefTotal + d else prefTotal + pd - a.nodeLoss - pv + g) ≤ a.sel.pMax) :
    (ampStep c pref prefTotal pd pv a).gain = g ∧ (ampStep c pref prefTotal pd pv a).dpInt = d ∧
    (ampStep c pref prefTotal pd pv a).outVoa = v ∧ (ampStep c pref prefTotal pd pv a).retDp = d ∧
    (ampStep c pref prefTotal pd pv a).retVoa = v := by
  have hg0 := ampStep_gain0 c pref prefTotal pd pv a
  have h : (ampStep c pref prefTotal pd pv a).dp0 = d ∧ (ampStep c pref prefTotal pd pv a).gain0 = g := by
    cases hm : c.powerMode
    · have h1 := ampStep_gain0_user c pref prefTotal pd pv a hm hg
      exact ⟨by linarith, h1⟩
    · have h2 := ampStep_dp0 c pref prefTotal pd pv a (.inl hm)
      rw [hd hm, Option.getD_some] at h2
      exact ⟨h2, by rw [hg0, h2, hbud]⟩
  have hred : (ampStep c pref prefTotal pd pv a).reduction = 0 := by
    rw [ampStep_reduction, powerReduction_eq, if_neg (Bool.eq_false_iff.1 hvar), h.1, h.2]
    -- in either mode `hfit` is the headroom of the branch taken
    revert hfit
    cases c.powerMode <;> exact (min_zero_sub_spec _ _).2.1
  obtain ⟨hgain, hdp⟩ := ampStep_shift_zero c pref prefTotal pd pv a (by simp [hov])
  have hret : (ampStep c pref prefTotal pd pv a).retDp = d := by rw [ampStep_retDp, h.1, hred, add_zero]
  exact ⟨by rw [hgain, h.2, hred, add_zero], hdp.trans hret,
    by rw [ampStep_outVoa c pref prefTotal pd pv a (by simp [hov]), hov, Option.getD_some], hret,
    by rw [ampStep_retVoa, hov, Option.getD_some]⟩

/-! ### GnpyModel/Redesign.lean: vocabulary of the redesign fixpoint (C17) -/

/-- along the first design walk no amplifier is left above its p_max, so that the saturation check of the second
design finds nothing to reduce: in power mode `pref_total + _delta_p ≤ p_max`, in gain mode the output as the code
estimates it, `pref_total + prev_dp − node_loss − prev_voa + gain ≤ p_max`.  (The first design guarantees this by
`saturation_minimal…` / `saturation_auto_selected`, except when the VOA optimisation rounds up past p_max — finding
voa-rounding-above-pmax, witness `voa_auto_can_exceed_pmax_fails_current` in Props/C09 — and, in gain mode with
`in_voa ≠ 0`, for auto-selected models — finding gain-mode-in-voa-saturation, witness
`gain_mode_in_voa_over_reduction_fails_current`.) -/
def FitsAll (c : Cfg ℝ) (pref prefTotal : ℝ) : ℝ → ℝ → List (AmpIn ℝ) → Prop
  | _, _, [] => True
  | pd, pv, a :: rest =>
    let o := ampStep c pref prefTotal pd pv a
    (c.powerMode = true → prefTotal + o.dpInt ≤ a.sel.pMax) ∧
    (c.powerMode = false → prefTotal + pd - a.nodeLoss - pv + o.gain ≤ a.sel.pMax) ∧
    FitsAll c pref prefTotal o.retDp o.retVoa rest

/-- the designed operating point agrees with the first design on everything that is exported -/
def SamePoint (o o' : AmpOut ℝ) : Prop :=
  o'.gain = o.gain ∧ o'.dpInt = o.dpInt ∧ o'.outVoa = o.outVoa ∧ o'.deltaP = o.deltaP ∧ o'.inVoa = o.inVoa

/-- a re-used amplifier carries a type_variety: the second design treats its model as imposed -/
theorem reuseAmp_variety (a : AmpIn ℝ) (o : AmpOut ℝ) : ((reuseAmp a o).user.variety == "") = false := by
  by_cases h : (a.user.variety == "") = true <;> simp [reuseAmp, h]

end Gnpy.Chain
