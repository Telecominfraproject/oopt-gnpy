import GnpyModel.RoundHE
import GnpyProofs.RealInst
import GnpyProofs.Lemmas.Nearest
/-
Model: GnpyModel/RoundHE.lean, instantiated at ℝ.
Round-half-even over ℝ (`numpy.rint`, Python's `round`) and the decimal roundings built on it.  Everything that is
used about it — error bound, monotonicity, identity on integers, evaluation at a given point — follows from one
fact: the result is an integer within one half of the argument (`rintR_spec`); which way a tie goes never matters.
-/
namespace Gnpy

/-- integers within one half of two ordered numbers are ordered the same way -/
theorem nearestInt_le {m n : ℤ} {x y : ℝ} (hm : |(m : ℝ) - x| ≤ 1 / 2) (hn : |(n : ℝ) - y| ≤ 1 / 2) (h : x < y) :
    m ≤ n := by
  have h1 : (m : ℝ) - x ≤ 1 / 2 := (le_abs_self _).trans hm
  have h2 : -((n : ℝ) - y) ≤ 1 / 2 := (neg_le_abs _).trans hn
  rw [← Int.lt_add_one_iff, ← @Int.cast_lt ℝ, Int.cast_add, Int.cast_one]
  linarith

namespace HE

/-- `numpy.rint` on ℝ, written like `rintFloat` -/
noncomputable def rintR (x : ℝ) : ℝ :=
  if Int.fract x < 1 / 2 then (⌊x⌋ : ℝ)
  else if 1 / 2 < Int.fract x then (⌊x⌋ : ℝ) + 1
  else if Even ⌊x⌋ then (⌊x⌋ : ℝ) else (⌊x⌋ : ℝ) + 1

noncomputable instance : Rint ℝ := ⟨rintR⟩

@[simp] theorem rint_real (x : ℝ) : Rint.rint x = rintR x := rfl

/-- round-half-even goes down only when the fractional part is at most one half, up only when it is at least that -/
theorem rintR_cases (x : ℝ) :
    rintR x = ⌊x⌋ ∧ Int.fract x ≤ 1 / 2 ∨ rintR x = (⌊x⌋ + 1 : ℤ) ∧ 1 / 2 ≤ Int.fract x := by
  unfold rintR
  split_ifs with a b c
  · exact .inl ⟨rfl, a.le⟩
  · exact .inr ⟨by push_cast; rfl, b.le⟩
  · exact .inl ⟨rfl, not_lt.1 b⟩
  · exact .inr ⟨by push_cast; rfl, not_lt.1 a⟩

/-- the result is an integer within one half of the argument -/
theorem rintR_spec (x : ℝ) : ∃ n : ℤ, rintR x = n ∧ |(n : ℝ) - x| ≤ 1 / 2 := by
  rcases rintR_cases x with ⟨e, h⟩ | ⟨e, h⟩
  · exact ⟨_, e, by rwa [abs_sub_comm, Int.self_sub_floor, abs_of_nonneg (Int.fract_nonneg x)]⟩
  · refine ⟨_, e, ?_⟩
    have : ((⌊x⌋ + 1 : ℤ) : ℝ) - x = 1 - Int.fract x := by rw [Int.fract]; push_cast; ring
    rw [this, abs_of_nonneg (sub_nonneg.2 (Int.fract_lt_one x).le)]
    linarith

theorem abs_rintR_sub_le (x : ℝ) : |rintR x - x| ≤ 1 / 2 := by
  obtain ⟨n, hn, h⟩ := rintR_spec x
  rwa [hn]

theorem rintR_mono {x y : ℝ} (h : x ≤ y) : rintR x ≤ rintR y := by
  rcases eq_or_lt_of_le h with rfl | hlt
  · exact le_rfl
  obtain ⟨m, hm, hx⟩ := rintR_spec x
  obtain ⟨n, hn, hy⟩ := rintR_spec y
  rw [hm, hn, Int.cast_le]
  exact nearestInt_le hx hy hlt

/-- an integer strictly closer than one half is the rounding -/
theorem rintR_eq_of_abs_lt {x : ℝ} {n : ℤ} (h : |(n : ℝ) - x| < 1 / 2) : rintR x = n := by
  obtain ⟨m, hm, hx⟩ := rintR_spec x
  rw [hm, nearestInt_unique hx h]

theorem rintR_intCast (n : ℤ) : rintR (n : ℝ) = n := rintR_eq_of_abs_lt (by simp)

/-- rounding to a grid of step `s`: `rint(x/s)·s` is within half a step of `x` -/
theorem abs_rintR_div_mul_sub_le (x : ℝ) {s : ℝ} (hs : 0 < s) : |rintR (x / s) * s - x| ≤ s / 2 := by
  rw [show rintR (x / s) * s - x = (rintR (x / s) - x / s) * s by field_simp, abs_mul, abs_of_pos hs,
    show s / 2 = 1 / 2 * s by ring]
  exact mul_le_mul_of_nonneg_right (abs_rintR_sub_le _) hs.le

/-- the same for a step given as `1/c`, the way `round(x, k)` computes: `rint(x·c)/c` -/
theorem abs_rintR_mul_div_sub_le (x : ℝ) {c : ℝ} (hc : 0 < c) : |rintR (x * c) / c - x| ≤ 1 / 2 / c := by
  simpa [div_eq_mul_inv, mul_comm] using abs_rintR_div_mul_sub_le x (inv_pos.2 hc)

theorem round2_real (x : ℝ) : round2 x = rintR (x * 100) / 100 := by
  simp [round2]

theorem round2_mono {x y : ℝ} (h : x ≤ y) : round2 x ≤ round2 y := by
  rw [round2_real, round2_real]
  exact div_le_div_of_nonneg_right (rintR_mono (mul_le_mul_of_nonneg_right h (by norm_num))) (by norm_num)

theorem abs_round2_sub_le (x : ℝ) : |round2 x - x| ≤ 1 / 200 := by
  rw [round2_real]
  exact (abs_rintR_mul_div_sub_le x (by norm_num)).trans_eq (by norm_num)

/-- a value with two decimals is its own rounding -/
theorem round2_grid (k : ℤ) : round2 ((k : ℝ) / 100) = (k : ℝ) / 100 := by
  rw [round2_real, div_mul_cancel₀ _ (by norm_num), rintR_intCast]

end HE
end Gnpy
