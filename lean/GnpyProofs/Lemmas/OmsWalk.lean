import GnpyProofs.Lemmas.SlotsMap
/- Helper lemmas for C15: the graph walk of build_oms_list on well-formed networks.
   Model: GnpyModel/Slots.lean (`Net`, `walk`, `omsVertices`, `buildWalks`, `omsIdOf`). -/
namespace Gnpy.Slots
open Gnpy.Py

/-! ### well-formed networks -/

/-- A well-formed network as the walk of `build_oms_list` needs it. `pos` numbers the line elements along their line
    system (0 for the one fed by a ROADM/transceiver, +1 at every hop): its existence says that there is no ring made
    of line elements only. -/
structure Net.WF (g : Net) (pos : Nat → Nat) : Prop where
  len : g.succ.length = g.kind.length
  inRange : ∀ i x, x ∈ g.succOf i → x < g.size
  succNodup : ∀ i, (g.succOf i).Nodup
  /-- a line element has exactly one successor, a line element or a ROADM -/
  lineSucc : ∀ l, g.kindOf l = NodeKind.line → ∃ s, g.succOf l = [s] ∧ g.kindOf s ≠ NodeKind.trx
  /-- a line element has at most one predecessor (`hasPred`: at least one) -/
  uniquePred : ∀ a b l, g.kindOf l = NodeKind.line → l ∈ g.succOf a → l ∈ g.succOf b → a = b
  hasPred : ∀ l, g.kindOf l = NodeKind.line → ∃ a, l ∈ g.succOf a
  /-- the successor of a line element is not the node it was entered from: this is what
      `next(n[1] for n in network.edges([n_temp]) if n[1].uid != nd_in.uid)` needs to find one -/
  noBounce : ∀ a l, g.kindOf l = NodeKind.line → l ∈ g.succOf a → g.succOf l ≠ [a]
  posStart : ∀ a l, g.kindOf l = NodeKind.line → l ∈ g.succOf a → g.kindOf a ≠ NodeKind.line → pos l = 0
  posStep : ∀ a l, g.kindOf l = NodeKind.line → l ∈ g.succOf a → g.kindOf a = NodeKind.line → pos l = pos a + 1
  /-- every transceiver has a successor (`next(network.successors(n))` in `oms_vertices`) -/
  trxSucc : ∀ t, t < g.size → g.kindOf t = NodeKind.trx → g.succOf t ≠ []
  /-- a transceiver that feeds a line element is not "ROADM first", so it is an OMS vertex -/
  trxFeed : ∀ t l, g.kindOf t = NodeKind.trx → l ∈ g.succOf t → g.kindOf l = NodeKind.line →
    ∃ h, (g.succOf t).head? = some h ∧ g.kindOf h ≠ NodeKind.roadm

theorem Net.kindOf_lt (g : Net) {i : Nat} (h : g.kindOf i ≠ NodeKind.roadm) : i < g.size := by
  by_contra hh
  simp [Net.kindOf, List.getElem?_eq_none (Nat.le_of_not_lt hh)] at h

theorem Net.lt_of_mem_succOf (g : Net) {a l : Nat} (h : l ∈ g.succOf a) : a < g.succ.length := by
  by_contra hh
  rw [Net.succOf, List.getElem?_eq_none (Nat.le_of_not_lt hh)] at h
  exact List.not_mem_nil h

/-! ### the walk and its result, `OmsPath` -/

/-- the result of the walk from the edge `(p, x)`, as a relation: line elements up to the next ROADM -/
inductive OmsPath (g : Net) : Nat → Nat → List Nat → Prop
  | stop (p x : Nat) : x ∈ g.succOf p → g.kindOf x = NodeKind.roadm → OmsPath g p x [x]
  | step (p x s : Nat) (w : List Nat) : x ∈ g.succOf p → g.kindOf x = NodeKind.line → g.succOf x = [s] →
      OmsPath g x s w → OmsPath g p x (x :: w)

/-- **the walk terminates within the fuel** on a well-formed network and yields an `OmsPath`.
    `vis` are the nodes already on the route (ingress node and line elements), all different from what follows. The
    count: `vis` holds distinct nodes, so at most `size` of them, and each step moves one node into `vis` for one unit of
    fuel; so `size + 1 ≤ fuel + |vis|` is kept and the fuel cannot run out. -/
theorem walk_ok (g : Net) (pos : Nat → Nat) (hwf : g.WF pos) :
    ∀ (fuel p x : Nat) (vis : List Nat), x ∈ g.succOf p → g.kindOf x ≠ NodeKind.trx → vis.Nodup →
      (∀ y ∈ vis, y < g.size) →
      (g.kindOf x = NodeKind.line → ∀ y ∈ vis, g.kindOf y ≠ NodeKind.line ∨ pos y < pos x) →
      g.size + 1 ≤ fuel + vis.length →
      ∃ w, walk g fuel p x = .ok w ∧ OmsPath g p x w := by
  intro fuel
  induction fuel with
  | zero =>
    intro p x vis _ _ hnd hlt _ hf
    have : vis.length ≤ g.size :=
      (hnd.length_le_of_subset fun y hy => List.mem_range.2 (hlt y hy)).trans List.length_range.le
    omega
  | succ fuel ih =>
    intro p x vis hx hk hnd hlt hpos hf
    unfold walk
    by_cases hr : g.kindOf x = NodeKind.roadm
    · rw [if_pos hr]
      exact ⟨[x], rfl, OmsPath.stop p x hx hr⟩
    · have hline : g.kindOf x = NodeKind.line := by
        cases hkx : g.kindOf x with
        | roadm => exact absurd hkx hr
        | trx => exact absurd hkx hk
        | line => rfl
      obtain ⟨s, hs, hst⟩ := hwf.lineSucc x hline
      have hsp : s ≠ p := fun e => hwf.noBounce p x hline hx (e ▸ hs)
      have hxs : s ∈ g.succOf x := hs ▸ List.mem_singleton_self _
      have hxvis : x ∉ vis := fun hin => (hpos hline x hin).elim (· hline) (Nat.lt_irrefl _)
      -- `s` is one further along the line system than `x`, hence beyond everything visited
      have hposs : g.kindOf s = NodeKind.line → pos x < pos s := fun hsl =>
        Nat.lt_of_lt_of_eq (Nat.lt_succ_self _) (hwf.posStep x s hsl hxs hline).symm
      obtain ⟨w, hw, hp⟩ := ih x s (x :: vis) hxs hst (List.nodup_cons.2 ⟨hxvis, hnd⟩)
        (List.forall_mem_cons.2 ⟨g.kindOf_lt hr, hlt⟩)
        (fun hsl => List.forall_mem_cons.2 ⟨Or.inr (hposs hsl),
          fun y hy => (hpos hline y hy).imp_right fun h => Nat.lt_trans h (hposs hsl)⟩)
        (by rw [List.length_cons]; omega)
      rw [if_neg hr, hs, show List.find? (fun y => decide (y ≠ p)) [s] = some s by simp [hsp]]
      exact ⟨x :: w, by simp only [hw, Except.ok_bind, Except.pure_eq_ok], OmsPath.step p x s w hx hline hs hp⟩

/-- **The walk terminates** within the fuel (= number of nodes) from every OMS vertex of a well-formed network, without
    exception, and follows line elements up to the next ROADM. -/
theorem walk_terminates (g : Net) (pos : Nat → Nat) (hwf : g.WF pos) (v x : Nat) (hv : v < g.size)
    (hvk : g.kindOf v ≠ NodeKind.line) (hx : x ∈ g.succOf v) (hxk : g.kindOf x ≠ NodeKind.trx) :
    ∃ w, walk g g.size v x = .ok w ∧ OmsPath g v x w :=
  walk_ok g pos hwf g.size v x [v] hx hxk (List.nodup_singleton v) (List.forall_mem_singleton.2 hv)
    (fun _ => List.forall_mem_singleton.2 (Or.inl hvk)) (by simp)

theorem OmsPath.functional {g : Net} {p x : Nat} {w w' : List Nat} (h : OmsPath g p x w) (h' : OmsPath g p x w') :
    w = w' := by
  induction h generalizing w' with
  | stop p x hx hr =>
    cases h' with
    | stop => rfl
    | step _ _ _ _ _ hl =>
      rw [hr] at hl
      cases hl
  | step p x s w hx hl hs _ ih =>
    cases h' with
    | stop _ _ _ hr =>
      rw [hl] at hr
      cases hr
    | step _ _ s' w'' _ _ hs' hp' =>
      cases hs.symm.trans hs'
      rw [ih hp']

theorem OmsPath.head {g : Net} {p x : Nat} {w : List Nat} (h : OmsPath g p x w) : w.head? = some x := by
  cases h <;> rfl

/-- an OMS route: line elements only, then the egress ROADM -/
theorem OmsPath.shape {g : Net} {p x : Nat} {w : List Nat} (h : OmsPath g p x w) :
    ∃ ls r, w = ls ++ [r] ∧ (∀ y ∈ ls, g.kindOf y = NodeKind.line) ∧ g.kindOf r = NodeKind.roadm := by
  induction h with
  | stop p x _ hr => exact ⟨[], x, rfl, by simp, hr⟩
  | step p x s w _ hl _ _ ih =>
    obtain ⟨ls, r, e, h1, h2⟩ := ih
    exact ⟨x :: ls, r, by rw [e]; rfl, List.forall_mem_cons.2 ⟨hl, h1⟩, h2⟩

/-- consecutive elements of the route (ingress node included) are joined by an edge of the network -/
def Linked (g : Net) : List Nat → Prop
  | [] => True
  | [_] => True
  | a :: b :: rest => b ∈ g.succOf a ∧ Linked g (b :: rest)

theorem OmsPath.linked {g : Net} {p x : Nat} {w : List Nat} (h : OmsPath g p x w) : Linked g (p :: w) := by
  induction h with
  | stop p x hx _ => exact ⟨hx, trivial⟩
  | step p x s w hx _ _ _ ih => exact ⟨hx, ih⟩

/-- the predecessor of an element of the route: the ingress node (for the first hop) or a line element of the route -/
theorem OmsPath.mem_pred {g : Net} {p x : Nat} {w : List Nat} (h : OmsPath g p x w) {y : Nat} (hy : y ∈ w) :
    ∃ a, y ∈ g.succOf a ∧ ((a = p ∧ y = x) ∨ (a ∈ w ∧ g.kindOf a = NodeKind.line)) := by
  induction h with
  | stop p x hx _ => exact ⟨p, List.mem_singleton.1 hy ▸ hx, Or.inl ⟨rfl, List.mem_singleton.1 hy⟩⟩
  | step p x s w hx hl hs _ ih =>
    rcases List.mem_cons.1 hy with rfl | hy
    · exact ⟨p, hx, Or.inl ⟨rfl, rfl⟩⟩
    · obtain ⟨a, ha, ⟨rfl, rfl⟩ | ⟨haw, hal⟩⟩ := ih hy
      · exact ⟨a, ha, Or.inr ⟨List.mem_cons_self, hl⟩⟩
      · exact ⟨a, ha, Or.inr ⟨List.mem_cons_of_mem _ haw, hal⟩⟩

/-- the route follows every line element it contains to its successor -/
theorem OmsPath.closed {g : Net} {p x : Nat} {w : List Nat} (h : OmsPath g p x w) (b s : Nat) (hb : b ∈ w)
    (hbl : g.kindOf b = NodeKind.line) (hbs : g.succOf b = [s]) : s ∈ w := by
  induction h with
  | stop p x _ hr =>
    cases List.mem_singleton.1 hb
    rw [hbl] at hr
    cases hr
  | step p x s' w _ hl hs hp ih =>
    rcases List.mem_cons.1 hb with rfl | hb
    · cases hs.symm.trans hbs
      exact List.mem_cons_of_mem _ (List.mem_of_mem_head? hp.head)
    · exact List.mem_cons_of_mem _ (ih hb)

/-! ### `oms_vertices`, the (vertex, first hop) pairs and the list of walks -/

/-- what the transceiver clause of `oms_vertices` returns on a well-formed network: every transceiver has a successor, so
    `next(network.successors(n))` finds one -/
theorem trxVertex_eq {g : Net} {pos : Nat → Nat} (hwf : g.WF pos) {i : Nat} (hi : i < g.size) :
    trxVertex g i = .ok (decide (g.kindOf i = .trx) && (g.succOf i).head?.any fun h => decide (g.kindOf h ≠ .roadm)) := by
  unfold trxVertex
  by_cases hk : g.kindOf i = NodeKind.trx
  · have hne := hwf.trxSucc i hi hk
    cases hs : g.succOf i with
    | nil => exact absurd hs hne
    | cons h t => simp [hk]
  · simp [hk]

/-- `oms_vertices` succeeds on a well-formed network; its result lists every node at most once, no line element, every
    ROADM and every transceiver that feeds a line element -/
theorem omsVertices_ok (g : Net) (pos : Nat → Nat) (hwf : g.WF pos) :
    ∃ vs, omsVertices g = .ok vs ∧ vs.Nodup ∧ (∀ v ∈ vs, v < g.size ∧ g.kindOf v ≠ NodeKind.line) ∧
      (∀ v, v < g.size → g.kindOf v = NodeKind.roadm → v ∈ vs) ∧
      (∀ t l, g.kindOf t = NodeKind.trx → l ∈ g.succOf t → g.kindOf l = NodeKind.line → t ∈ vs) := by
  refine ⟨_, by rw [omsVertices, filterE_eq fun i hi => trxVertex_eq hwf (List.mem_range.1 hi)]; rfl,
    ?_, ?_, ?_, ?_⟩
  · refine (List.nodup_range.filter _).append (List.nodup_range.filter _) fun x hx1 hx2 => ?_
    have h1 := (List.mem_filter.1 hx1).2
    have h2 := (List.mem_filter.1 hx2).2
    simp only [decide_eq_true_eq, Bool.and_eq_true] at h1 h2
    rw [h1] at h2
    cases h2.1
  · intro v hv
    simp only [List.mem_append, List.mem_filter, List.mem_range, decide_eq_true_eq, Bool.and_eq_true] at hv
    rcases hv with ⟨h1, h2⟩ | ⟨h1, h2, -⟩ <;> exact ⟨h1, by rw [h2]; decide⟩
  · intro v hv hr
    exact List.mem_append_left _ (List.mem_filter.2 ⟨List.mem_range.2 hv, by simpa using hr⟩)
  · intro tr l hk hl hll
    obtain ⟨h, hh, hhk⟩ := hwf.trxFeed tr l hk hl hll
    exact List.mem_append_right _ (List.mem_filter.2
      ⟨List.mem_range.2 (g.kindOf_lt (by rw [hk]; decide)), by simp [hk, hh, hhk]⟩)

theorem mem_omsStarts {g : Net} {vs : List Nat} {st : Nat × Nat} :
    st ∈ omsStarts g vs ↔ st.1 ∈ vs ∧ st.2 ∈ g.succOf st.1 ∧ g.kindOf st.2 ≠ NodeKind.trx := by
  obtain ⟨a, b⟩ := st
  simp [omsStarts, and_assoc]

theorem nodup_omsStarts (g : Net) (pos : Nat → Nat) (hwf : g.WF pos) (vs : List Nat) (hvs : vs.Nodup) :
    (omsStarts g vs).Nodup := by
  unfold omsStarts
  rw [List.nodup_flatMap]
  refine ⟨?_, ?_⟩
  · intro v _
    exact List.Nodup.map (Prod.mk_right_injective v) (List.Nodup.filter _ (hwf.succNodup v))
  · refine List.Pairwise.imp_of_mem ?_ hvs
    intro a b _ _ hab st h1 h2
    obtain ⟨x, _, rfl⟩ := List.mem_map.1 h1
    obtain ⟨y, _, hy⟩ := List.mem_map.1 h2
    have : b = a := by simpa using congrArg Prod.fst hy
    exact hab this.symm

/-- from every (vertex, first hop) pair the walk succeeds: the OMS are, in order, the ingress node of each pair followed
    by its `OmsPath` -/
theorem omsEls_ok {g : Net} {pos : Nat → Nat} (hwf : g.WF pos) {vs : List Nat}
    (hk : ∀ v ∈ vs, v < g.size ∧ g.kindOf v ≠ NodeKind.line) :
    ∃ L, mapE (omsEls g) (omsStarts g vs) = .ok L ∧
      List.Forall₂ (fun st els => ∃ w, els = st.1 :: w ∧ OmsPath g st.1 st.2 w) (omsStarts g vs) L := by
  refine mapE_total fun st hst => ?_
  obtain ⟨h1, h2, h3⟩ := mem_omsStarts.1 hst
  obtain ⟨w, hw, hp⟩ := walk_terminates g pos hwf st.1 st.2 (hk _ h1).1 (hk _ h1).2 h2 h3
  exact ⟨st.1 :: w, by rw [omsEls, hw]; rfl, w, rfl, hp⟩

/-- `build_oms_list` succeeds on a well-formed network; OMS number `i` is the walk from the `i`-th (vertex, first hop)
    pair: ingress node, then the `OmsPath` -/
theorem buildWalks_ok (g : Net) (pos : Nat → Nat) (hwf : g.WF pos) :
    ∃ vs L, omsVertices g = .ok vs ∧ vs.Nodup ∧ (∀ v ∈ vs, v < g.size ∧ g.kindOf v ≠ NodeKind.line) ∧
      (∀ v, v < g.size → g.kindOf v = NodeKind.roadm → v ∈ vs) ∧
      (∀ t l, g.kindOf t = NodeKind.trx → l ∈ g.succOf t → g.kindOf l = NodeKind.line → t ∈ vs) ∧
      buildWalks g = .ok L ∧ L.length = (omsStarts g vs).length ∧
      ∀ (i : Nat) (st : Nat × Nat), (omsStarts g vs)[i]? = some st →
        ∃ w, L[i]? = some (st.1 :: w) ∧ OmsPath g st.1 st.2 w := by
  obtain ⟨vs, hv, hnd, hk, hr, ht⟩ := omsVertices_ok g pos hwf
  obtain ⟨L, hL, F⟩ := omsEls_ok hwf hk
  refine ⟨vs, L, hv, hnd, hk, hr, ht, by rw [buildWalks, hv]; exact hL, F.length_eq.symm, fun i st hi => ?_⟩
  obtain ⟨els, h1, w, rfl, hp⟩ := F.getElem?_left hi
  exact ⟨w, h1, hp⟩

/-! ### every line element lies on exactly one OMS -/

/-- two routes that contain the same line element start with the same edge (unique predecessors, by induction on the
    position of the element along its line system) -/
theorem OmsPath.same_start (g : Net) (pos : Nat → Nat) (hwf : g.WF pos) :
    ∀ (k l : Nat), pos l = k → g.kindOf l = NodeKind.line →
      ∀ (p1 x1 p2 x2 : Nat) (w1 w2 : List Nat), g.kindOf p1 ≠ NodeKind.line → g.kindOf p2 ≠ NodeKind.line →
        OmsPath g p1 x1 w1 → OmsPath g p2 x2 w2 → l ∈ w1 → l ∈ w2 → p1 = p2 ∧ x1 = x2 := by
  intro k
  induction k using Nat.strongRecOn with
  | ind k ih =>
    intro l hpos hl p1 x1 p2 x2 w1 w2 hp1 hp2 h1 h2 m1 m2
    obtain ⟨a, ha, c1⟩ := h1.mem_pred m1
    obtain ⟨a', ha', c2⟩ := h2.mem_pred m2
    cases hwf.uniquePred a a' l hl ha ha'
    rcases c1 with ⟨rfl, rfl⟩ | ⟨hb1, hal⟩
    · rcases c2 with ⟨rfl, rfl⟩ | ⟨-, hal⟩
      · exact ⟨rfl, rfl⟩
      · exact absurd hal hp1
    · rcases c2 with ⟨rfl, rfl⟩ | ⟨hb2, -⟩
      · exact absurd hal hp2
      · exact ih (pos a) (by have := hwf.posStep a l hl ha hal; omega) a rfl hal p1 x1 p2 x2 w1 w2 hp1 hp2 h1 h2 hb1 hb2

/-- every line element lies on the route of some OMS start (induction on its position along the line system) -/
theorem line_on_some_route (g : Net) (pos : Nat → Nat) (hwf : g.WF pos) (vs : List Nat)
    (hr : ∀ v, v < g.size → g.kindOf v = NodeKind.roadm → v ∈ vs)
    (ht : ∀ t l, g.kindOf t = NodeKind.trx → l ∈ g.succOf t → g.kindOf l = NodeKind.line → t ∈ vs)
    (hroute : ∀ st ∈ omsStarts g vs, ∃ w, OmsPath g st.1 st.2 w) :
    ∀ (k l : Nat), pos l = k → g.kindOf l = NodeKind.line →
      ∃ st ∈ omsStarts g vs, ∃ w, OmsPath g st.1 st.2 w ∧ l ∈ w := by
  intro k
  induction k using Nat.strongRecOn with
  | ind k ih =>
    intro l hpos hl
    obtain ⟨a, ha⟩ := hwf.hasPred l hl
    by_cases hal : g.kindOf a = NodeKind.line
    · have hp := hwf.posStep a l hl ha hal
      obtain ⟨st, hst, w, hw, haw⟩ := ih (pos a) (by omega) a rfl hal
      obtain ⟨s, hs, _⟩ := hwf.lineSucc a hal
      cases List.mem_singleton.1 (hs ▸ ha)
      exact ⟨st, hst, w, hw, hw.closed a l haw hal hs⟩
    · have hav : a ∈ vs := by
        cases hka : g.kindOf a with
        | line => exact absurd hka hal
        | roadm =>
          refine hr a ?_ hka
          rw [Net.size, ← hwf.len]
          exact g.lt_of_mem_succOf ha
        | trx => exact ht a l hka ha hl
      have hst : (a, l) ∈ omsStarts g vs := mem_omsStarts.2 ⟨hav, ha, by rw [hl]; decide⟩
      obtain ⟨w, hw⟩ := hroute (a, l) hst
      exact ⟨(a, l), hst, w, hw, List.mem_of_mem_head? hw.head⟩

/-- `element.oms_id` is the id of the only OMS whose interior contains the element -/
theorem omsIdOf_eq_some {L : List (List Nat)} {l i : Nat} {els : List Nat} (h : L[i]? = some els) (hl : l ∈ interior els)
    (huniq : ∀ (j : Nat) (els' : List Nat), L[j]? = some els' → l ∈ interior els' → j = i) : omsIdOf L l = some i := by
  unfold omsIdOf
  have hmem : (els, i) ∈ L.zipIdx.filter (fun p => decide (l ∈ interior p.1)) :=
    List.mem_filter.2 ⟨List.mem_zipIdx_iff_getElem?.2 h, decide_eq_true hl⟩
  cases hF : (L.zipIdx.filter (fun p => decide (l ∈ interior p.1))).getLast? with
  | none =>
    rw [List.getLast?_eq_none_iff.1 hF] at hmem
    cases hmem
  | some q =>
    obtain ⟨hq1, hq2⟩ := List.mem_filter.1 (List.mem_of_getLast? hF)
    rw [Option.map_some, huniq q.2 q.1 (List.mem_zipIdx_iff_getElem?.1 hq1) (of_decide_eq_true hq2)]

end Gnpy.Slots
