import GnpyModel
import GnpyProofs.Lemmas.ListIdioms
/- the candidate selection (steps 2-5 of `compute_path_dsjctn`, C12) step by step, what it answers on one
   synchronisation vector, and its soundness for ANY set of vectors.  Model: GnpyModel/Route.lean. -/
namespace Gnpy

/-- "the `p`-part if there is one, else the rest of the `q`-part" is empty exactly when the `q`-part is (`p ⊆ q`):
the shape of step 4 -/
theorem filter_else_eq_nil {α : Type} (p q : α → Bool) (hpq : ∀ x, p x = true → q x = true) (l : List α) :
    (if !(l.filter p).isEmpty then l.filter p else l.filter (fun x => !p x && q x)) = [] ↔
      ∀ x ∈ l, q x = false := by
  cases h : l.filter p with
  | nil =>
    -- no `p`-part: on `l` the test `!p x && q x` is `q x`
    rw [List.filter_eq_nil_iff] at h
    rw [List.isEmpty_nil, if_neg (by decide), List.filter_eq_nil_iff]
    refine forall₂_congr fun x hx => ?_
    rw [Bool.eq_false_iff.2 (h x hx), Bool.not_false, Bool.true_and, Bool.not_eq_true]
  | cons x xs =>
    -- a member `x` of the `p`-part is in the result and has `q x`
    obtain ⟨hx, hpx⟩ := List.mem_filter.1 (h ▸ List.mem_cons_self : x ∈ l.filter p)
    rw [List.isEmpty_cons, if_pos (by decide)]
    exact ⟨(nomatch ·), fun hq => absurd ((hq x hx).symm.trans (hpq x hpx)) Bool.false_ne_true⟩

end Gnpy
namespace Gnpy.Route

theorem mem_candsOf {inp : SelInput} {r : Nat} {c : Cand} : c ∈ candsOf inp r ↔ c.1 = r ∧ c.2 < inp.ncand r := by
  simp only [candsOf, List.mem_map, List.mem_range]
  constructor
  · rintro ⟨i, hi, rfl⟩; exact ⟨rfl, hi⟩
  · rintro ⟨rfl, h⟩; exact ⟨c.2, h, rfl⟩

/-! ### step 2 builds exactly the combinations of the vector -/

/-- a combination for the vector `dl`: one valid candidate per request, in order, each tested against all earlier ones -/
def Combo (inp : SelInput) (dl : List Nat) (sol : List Cand) : Prop :=
  sol.map Prod.fst = dl ∧ (∀ c ∈ sol, c.2 < inp.ncand c.1) ∧ sol.Pairwise (fun a b => inp.dis b a = true)

/-- one round of step 2: every combination so far, extended by every candidate of `r` that passes the test.  The body
is the function `step2` folds with, word for word, so that `step2` unfolds to `foldl (extend inp)` -/
def extend (inp : SelInput) (dpath : List (List Cand)) (r : Nat) : List (List Cand) :=
  (candsOf inp r).flatMap (fun c1 =>
    dpath.filterMap (fun cndt => if cndt.all (fun c => inp.dis c1 c) then some (cndt ++ [c1]) else none))

theorem combo_concat {inp : SelInput} {pre : List Nat} {r : Nat} {base : List Cand} {c : Cand} :
    Combo inp (pre ++ [r]) (base ++ [c]) ↔
      Combo inp pre base ∧ (c.1 = r ∧ c.2 < inp.ncand r) ∧ ∀ a ∈ base, inp.dis c a = true := by
  unfold Combo
  simp only [List.map_append, List.map_cons, List.map_nil, List.append_singleton_inj, List.pairwise_append,
    List.mem_append, List.mem_singleton, List.pairwise_singleton, true_and, forall_eq, or_imp, forall_and]
  constructor
  · rintro ⟨⟨h1, rfl⟩, ⟨h2, h3⟩, h4, h5⟩
    exact ⟨⟨h1, h2, h4⟩, ⟨rfl, h3⟩, h5⟩
  · rintro ⟨⟨h1, h2, h4⟩, ⟨rfl, h3⟩, h5⟩
    exact ⟨⟨h1, rfl⟩, ⟨h2, h3⟩, h4, h5⟩

theorem mem_extend {inp : SelInput} {pre : List Nat} (r : Nat) {dpath : List (List Cand)}
    (h : ∀ sol, sol ∈ dpath ↔ Combo inp pre sol) (sol : List Cand) :
    sol ∈ extend inp dpath r ↔ Combo inp (pre ++ [r]) sol := by
  simp only [extend, List.mem_flatMap, List.mem_filterMap, mem_candsOf, h, Option.ite_none_right_eq_some,
    Option.some.injEq, List.all_eq_true]
  constructor
  · rintro ⟨c, hc, base, hb, hd, rfl⟩
    exact combo_concat.2 ⟨hb, hc, hd⟩
  · intro hs
    rcases List.eq_nil_or_concat' sol with rfl | ⟨base, c, rfl⟩
    · simp [Combo] at hs
    · obtain ⟨hb, hc, hd⟩ := combo_concat.1 hs
      exact ⟨c, hc, base, hb, hd, rfl⟩

theorem mem_foldl_extend {inp : SelInput} : ∀ (others : List Nat) {pre : List Nat} {dpath : List (List Cand)},
    (∀ sol, sol ∈ dpath ↔ Combo inp pre sol) →
    ∀ sol, sol ∈ others.foldl (extend inp) dpath ↔ Combo inp (pre ++ others) sol
  | [], pre, dpath, h => by simpa using h
  | r :: others, pre, dpath, h => by
    have := mem_foldl_extend others (mem_extend r h)
    simpa using this

theorem mem_step2_iff {inp : SelInput} {dl : List Nat} {sol : List Cand} :
    sol ∈ step2 inp dl ↔ dl ≠ [] ∧ Combo inp dl sol := by
  cases dl with
  | nil => simp [step2]
  | cons r0 others =>
    -- the singletons step 2 starts from extend the empty combination
    have h0 : (candsOf inp r0).map (fun c => [c]) = extend inp [[]] r0 := List.map_eq_flatMap
    have := mem_foldl_extend (inp := inp) (r0 :: others) (pre := []) (dpath := [[]]) (fun sol =>
      ⟨fun h => by cases List.mem_singleton.1 h; exact ⟨rfl, nofun, .nil⟩,
       fun h => List.mem_singleton.2 (List.map_eq_nil_iff.1 h.1)⟩) sol
    rw [List.foldl_cons, ← h0] at this
    exact this.trans (by simp)

theorem mem_step2_pair {inp : SelInput} {r0 r1 : Nat} {sol : List Cand} :
    sol ∈ step2 inp [r0, r1] ↔
      ∃ i, i < inp.ncand r0 ∧ ∃ j, j < inp.ncand r1 ∧ sol = [(r0, i), (r1, j)] ∧ inp.dis (r1, j) (r0, i) = true := by
  rw [mem_step2_iff]
  constructor
  · rintro ⟨_, hm, hv, hp⟩
    -- the requests of `sol` are `[r0, r1]`, so `sol` is a pair
    obtain ⟨⟨_, i⟩, _, rfl, rfl, h1⟩ := List.map_eq_cons_iff.1 hm
    obtain ⟨⟨_, j⟩, _, rfl, rfl, h2⟩ := List.map_eq_cons_iff.1 h1
    cases List.map_eq_nil_iff.1 h2
    exact ⟨i, hv _ List.mem_cons_self, j, hv _ (List.mem_cons_of_mem _ List.mem_cons_self), rfl,
      List.rel_of_pairwise_cons hp List.mem_cons_self⟩
  · rintro ⟨i, hi, j, hj, rfl, hd⟩
    exact ⟨List.cons_ne_nil _ _, rfl, List.forall_mem_cons.2 ⟨hi, List.forall_mem_singleton.2 hj⟩,
      List.pairwise_pair.2 hd⟩

/-! ### Python's remove-while-iterating -/

theorem pyRemoveWhileIterating_eq_self {α : Type} (cond : α → Bool) : ∀ l : List α, (∀ x ∈ l, cond x = false) →
    pyRemoveWhileIterating cond l = l
  | [], _ => rfl
  | [x], h => by simp [pyRemoveWhileIterating, h x (by simp)]
  | x :: y :: rest, h => by
    have hx := h x (by simp)
    have ih := pyRemoveWhileIterating_eq_self cond (y :: rest) (fun z hz => h z (List.mem_cons_of_mem _ hz))
    simp [pyRemoveWhileIterating, hx, ih]

theorem pyRemoveWhileIterating_sublist {α : Type} (cond : α → Bool) : ∀ l : List α,
    (pyRemoveWhileIterating cond l).Sublist l
  | [] => .slnil
  | [x] => by
    rw [pyRemoveWhileIterating]
    split
    exacts [List.nil_sublist _, .refl _]
  | x :: y :: rest => by
    rw [pyRemoveWhileIterating]
    split
    · exact ((pyRemoveWhileIterating_sublist cond rest).cons_cons y).cons x
    · exact (pyRemoveWhileIterating_sublist cond (y :: rest)).cons_cons x

/-! ### step 3 on one vector: nothing is removed when no candidate is orphaned -/

/-- no candidate is "orphaned": whenever a combination holds a path equal (by value) to `c`, some combination uses
`c` for its own request -/
def NoOrphan (vid : Cand → Nat) (c : Cand) (C : List (List Cand)) : Prop :=
  (∃ combo ∈ C, holdsValue vid c combo = true) → ∃ combo ∈ C, usedBy vid c combo = true

theorem noOrphan_of_injective {vid : Cand → Nat} (hinj : ∀ c c', vid c = vid c' → c = c') {c : Cand}
    {C : List (List Cand)} : NoOrphan vid c C := by
  rintro ⟨combo, hc, hold⟩
  obtain ⟨x, hx, hxv⟩ := List.any_eq_true.1 hold
  refine ⟨combo, hc, ?_⟩
  unfold usedBy
  -- `find?` finds something, `x` at the latest, and what it finds is `c`
  cases h : combo.find? (fun x => vid x == vid c) with
  | none => exact absurd hxv (List.find?_eq_none.1 h x hx)
  | some y => simp [hinj y c (by simpa using List.find?_some h)]

theorem step3One_single {vid : Cand → Nat} {d : Nat} {combos : List (List Cand)} {concerned : List Nat}
    (hcon : ∀ x ∈ concerned, x = d) {c : Cand} (hno : NoOrphan vid c combos) :
    step3One vid concerned c [(d, combos)] = [(d, combos)] := by
  unfold step3One
  simp only
  split
  next hmiss =>
    obtain ⟨d', hd', hm⟩ := List.any_eq_true.1 hmiss
    cases hcon d' hd'
    simp only [List.lookup, beq_self_eq_true, Bool.not_eq_true', List.any_eq_false] at hm
    -- no combination uses `c`, so none holds its value, and nothing is removed
    have hnone : ∀ x ∈ combos, holdsValue vid c x = false := fun x hx => by
      by_contra h
      obtain ⟨y, hy, hu⟩ := hno ⟨x, hx, by simpa using h⟩
      exact hm y hy hu
    simp only [List.map_cons, List.map_nil, pyRemoveWhileIterating_eq_self _ combos hnone, ite_self]
  next => rfl

theorem step3_single {inp : SelInput} (d : Nat) {dl : List Nat} {reqs : List Nat} {combos : List (List Cand)}
    (hno : ∀ r ∈ reqs, r ∈ dl → ∀ c ∈ candsOf inp r, NoOrphan inp.vid c combos) :
    step3 inp [(d, dl)] reqs [(d, combos)] = [(d, combos)] := by
  refine foldl_fixed_of_mem _ _ reqs fun r hr => foldl_fixed_of_mem _ _ _ fun c hc => ?_
  by_cases hdl : r ∈ dl
  · -- the concerned vectors are among the one vector there is
    exact step3One_single (List.forall_mem_map.2 fun g hg =>
      congrArg Prod.fst (List.mem_singleton.1 (List.mem_of_mem_filter hg))) (hno r hr hdl c hc)
  · -- the vector does not list `r`: no vector is concerned, nothing is missing, `step3One` returns the table
    simp [step3One, List.filter, hdl]

/-- the facts about the candidate lists of a pair of requests the completeness argument uses:
* `inj`   two different candidates of one request (any request) are different paths,
* `self`  a path never passes the disjointness test against an equal path,
* `swap`  the test only looks at the paths (not at who owns them) and is symmetric,
* `close01`, `close10`  when a candidate of one request equals a candidate of the other (same end points), every
          candidate of `r0` also is a candidate of `r1` (`close01`) and the other way round (`close10`). -/
structure PairFacts (inp : SelInput) (r0 r1 : Nat) : Prop where
  inj : ∀ r i j, inp.vid (r, i) = inp.vid (r, j) → i = j
  self : ∀ i j, inp.dis (r1, j) (r0, i) = true → inp.vid (r1, j) ≠ inp.vid (r0, i)
  swap : ∀ i j i' j', inp.vid (r0, i) = inp.vid (r1, j') → inp.vid (r1, j) = inp.vid (r0, i') →
            inp.dis (r1, j) (r0, i) = inp.dis (r1, j') (r0, i')
  close01 : ∀ i j, i < inp.ncand r0 → j < inp.ncand r1 → inp.vid (r0, i) = inp.vid (r1, j) →
            ∀ i', i' < inp.ncand r0 → ∃ j', j' < inp.ncand r1 ∧ inp.vid (r1, j') = inp.vid (r0, i')
  close10 : ∀ i j, i < inp.ncand r0 → j < inp.ncand r1 → inp.vid (r0, i) = inp.vid (r1, j) →
            ∀ j', j' < inp.ncand r1 → ∃ i', i' < inp.ncand r0 ∧ inp.vid (r0, i') = inp.vid (r1, j')

theorem usedBy_pair (vid : Cand → Nat) (c a b : Cand) :
    usedBy vid c [a, b] = if vid a = vid c then a.1 == c.1 else if vid b = vid c then b.1 == c.1 else false := by
  unfold usedBy
  by_cases h1 : vid a = vid c <;> by_cases h2 : vid b = vid c <;>
    simp [List.find?, h1, h2, beq_false_of_ne]

theorem holdsValue_pair (vid : Cand → Nat) (c a b : Cand) :
    holdsValue vid c [a, b] = true ↔ vid a = vid c ∨ vid b = vid c := by
  simp [holdsValue]

/-- a pair of requests orphans no candidate.  The case that needs an argument: a combination holds the value of
candidate `c` in the slot of the OTHER request.  Then the two requests have the same end points, so (`close01`/`close10`)
the partner of `c` in that combination has a twin among the candidates of the request of `c`, and `c` with that twin
passes the test because the mirrored pair did (`swap`). -/
theorem noOrphan_pair {inp : SelInput} {r0 r1 : Nat} (hf : PairFacts inp r0 r1) :
    ∀ r ∈ [r0, r1], ∀ c ∈ candsOf inp r, NoOrphan inp.vid c (step2 inp [r0, r1]) := by
  rintro r hr ⟨cr, k⟩ hc ⟨combo, hcombo, hold⟩
  obtain ⟨rfl, hc2⟩ : cr = r ∧ k < inp.ncand r := mem_candsOf.1 hc
  obtain ⟨i', hi', j', hj', rfl, hd⟩ := mem_step2_pair.1 hcombo
  rw [holdsValue_pair] at hold
  simp only [List.mem_cons, List.mem_nil_iff, or_false] at hr
  obtain rfl | rfl := hr.imp Eq.symm Eq.symm
  · -- `c` is candidate `k` of `r0`
    by_cases h1 : inp.vid (r0, i') = inp.vid (r0, k)
    · cases hf.inj _ i' k h1
      exact ⟨_, hcombo, by simp [usedBy_pair]⟩
    · -- the value of `c` is that of `(r1, j')`: the twin `j''` of `i'` in `r1`, and `(k, j'')` mirrors `(i', j')`
      have h2 := hold.resolve_left h1
      obtain ⟨j'', hj'', hv⟩ := hf.close01 k j' hc2 hj' h2.symm i' hi'
      refine ⟨[(r0, k), (r1, j'')], mem_step2_pair.2 ⟨k, hc2, j'', hj'', rfl, ?_⟩, by simp [usedBy_pair]⟩
      rw [hf.swap k j'' i' j' h2.symm hv, hd]
  · -- `c` is candidate `k` of `r1`
    by_cases h1 : inp.vid (r0, i') = inp.vid (r1, k)
    · by_cases hj : j' = k
      · exact absurd (hj ▸ h1.symm) (hf.self i' j' hd)
      · -- the value of `c` is that of `(r0, i')`: the twin `i''` of `j'` in `r0`, and `(i'', k)` mirrors `(i', j')`
        obtain ⟨i'', hi'', hv⟩ := hf.close10 i' k hi' hc2 h1 j' hj'
        have hne' : inp.vid (r0, i'') ≠ inp.vid (r1, k) := hv ▸ fun h => hj (hf.inj r1 j' k h)
        refine ⟨[(r0, i''), (r1, k)], mem_step2_pair.2 ⟨i'', hi'', k, hc2, rfl, ?_⟩, by simp [usedBy_pair, hne']⟩
        rw [hf.swap i'' k i' j' hv h1.symm, hd]
    · cases hf.inj _ j' k (hold.resolve_left h1)
      exact ⟨_, hcombo, by simp [usedBy_pair, h1]⟩

/-! ### steps 4 and 5 on one vector, and what the selection answers there -/

/-- step-4 acceptability of one candidate: no include list, or list honoured, or list all-LOOSE -/
def accCand (inp : SelInput) (c : Cand) : Bool := !(inp.hasInc c.1) || inp.okInc c || !(inp.hasStrict c.1)

theorem step4_nil_iff (inp : SelInput) (combos : List (List Cand)) :
    step4 inp combos = [] ↔ ∀ sol ∈ combos, sol.all (accCand inp) = false :=
  filter_else_eq_nil _ _ (fun sol h => List.all_eq_true.2 fun c hc => by
    simp only [List.all_eq_true.1 h c hc, Bool.true_or]) combos

theorem step5_single_none_iff (d : Nat) (cs : List (List Cand)) (todo : List Nat) :
    step5 [d] [(d, cs)] todo = none ↔ cs = [] := by
  cases cs <;> simp [step5, step5.go, List.lookup]

/-- one vector in which step 3 orphans no candidate: the selection fails exactly when step 2 built no acceptable
combination (step 3 removes nothing, step 4 keeps an acceptable combination if there is one, step 5 takes the first) -/
theorem selectDisjoint_single_none_iff {inp : SelInput} (d : Nat) {dl reqs : List Nat}
    (hno : ∀ r ∈ reqs, r ∈ dl → ∀ c ∈ candsOf inp r, NoOrphan inp.vid c (step2 inp dl)) :
    selectDisjoint inp [(d, dl)] reqs = none ↔ ∀ sol ∈ step2 inp dl, sol.all (accCand inp) = false := by
  unfold selectDisjoint
  simp only [List.map_cons, List.map_nil]
  rw [step3_single d hno]
  exact (step5_single_none_iff d _ reqs).trans (step4_nil_iff inp _)

/-! ### steps 3, 4 and `remove_candidate` only remove combinations: the table stays good -/

/-- the table of candidates only holds good combinations of the vector it is filed under -/
def GoodTable (inp : SelInput) (groups : List (Nat × List Nat)) (cands : List (Nat × List (List Cand))) : Prop :=
  ∀ e ∈ cands, ∃ g ∈ groups, g.1 = e.1 ∧ ∀ sol ∈ e.2, Combo inp g.2 sol

theorem goodTable_map {inp : SelInput} {groups : List (Nat × List Nat)} {cands : List (Nat × List (List Cand))}
    (F : Nat × List (List Cand) → Nat × List (List Cand))
    (hF : ∀ e, (F e).1 = e.1 ∧ ∀ x ∈ (F e).2, x ∈ e.2) (h : GoodTable inp groups cands) :
    GoodTable inp groups (cands.map F) :=
  List.forall_mem_map.2 fun e he =>
    let ⟨g, hg, hk, hgood⟩ := h e he
    ⟨g, hg, (hF e).1 ▸ hk, fun sol hsol => hgood sol ((hF e).2 sol hsol)⟩

theorem step3One_good {inp : SelInput} {groups : List (Nat × List Nat)} {concerned : List Nat} {c : Cand}
    {cands : List (Nat × List (List Cand))} (h : GoodTable inp groups cands) :
    GoodTable inp groups (step3One inp.vid concerned c cands) := by
  unfold step3One
  simp only
  split
  · refine goodTable_map _ (fun ⟨d, combos⟩ => ?_) h
    split
    exacts [⟨rfl, (pyRemoveWhileIterating_sublist _ combos).subset⟩, ⟨rfl, fun _ hx => hx⟩]
  · exact h

theorem step3_good {inp : SelInput} {groups : List (Nat × List Nat)} (reqs : List Nat)
    {cands : List (Nat × List (List Cand))} (h : GoodTable inp groups cands) :
    GoodTable inp groups (step3 inp groups reqs cands) :=
  List.foldlRecOn reqs _ h fun _ hcs _ _ => List.foldlRecOn _ _ hcs fun _ h _ _ => step3One_good h

theorem step4_subset (inp : SelInput) (combos : List (List Cand)) : ∀ x ∈ step4 inp combos, x ∈ combos := by
  intro x hx
  unfold step4 at hx
  simp only at hx
  split at hx <;> exact (List.mem_filter.1 hx).1

theorem removeCandidate_good {inp : SelInput} {groups : List (Nat × List Nat)} (c : Cand)
    {cands : List (Nat × List (List Cand))} (h : GoodTable inp groups cands) :
    GoodTable inp groups (removeCandidate c cands) :=
  goodTable_map _ (fun _ => ⟨rfl, fun _ hx => List.mem_of_mem_filter hx⟩) h

/-! ### soundness for any set of vectors: step 5 on a good table, and what it keeps true of its state -/

/-- all combinations of the table, whatever vector they are filed under -/
def combosOf (cands : List (Nat × List (List Cand))) : List (List Cand) := cands.flatMap (·.2)

theorem mem_combosOf_removeCandidate {c : Cand} {cands : List (Nat × List (List Cand))} {s : List Cand} :
    s ∈ combosOf (removeCandidate c cands) ↔ s ∈ combosOf cands ∧ ∀ x ∈ s, x.1 = c.1 → x = c := by
  simp only [combosOf, removeCandidate, List.flatMap_map, List.mem_flatMap, List.mem_filter, List.all_eq_true,
    Bool.or_eq_true, bne_iff_ne, ne_eq, beq_iff_eq, ← imp_iff_not_or, ← exists_and_right, and_assoc]

/-- state of step 5: the table, the requests still to be served, the paths chosen -/
abbrev State := List (Nat × List (List Cand)) × List Nat × List Cand
abbrev State.table (st : State) := st.1
abbrev State.todo (st : State) := st.2.1
abbrev State.chosen (st : State) := st.2.2

/-- the state transformer applied to every path of the selected combination.  The body is the function `step5.go` folds
with, word for word (hence `st.2.1`, not `st.todo`), so that `step5_go_cons` holds by `rfl` -/
def pick (st : State) (c : Cand) : State :=
  if st.2.1.contains c.1 then (removeCandidate c st.1, st.2.1.erase c.1, st.2.2 ++ [c]) else st

/-- what step 5 keeps true of its state `(table, todo, chosen)`; `todo` and `chosen` split the requests, one path per
served request -/
structure Step5Inv (inp : SelInput) (groups : List (Nat × List Nat)) (reqs : List Nat) (st : State) : Prop where
  good : GoodTable inp groups st.table
  /-- every combination still in the table agrees with the paths already chosen -/
  agree : ∀ c ∈ st.chosen, ∀ s ∈ combosOf st.table, ∀ x ∈ s, x.1 = c.1 → x = c
  mem_todo : ∀ r, r ∈ st.todo ↔ r ∈ reqs ∧ r ∉ st.chosen.map Prod.fst
  chosen_nodup : (st.chosen.map Prod.fst).Nodup
  todo_nodup : st.todo.Nodup

theorem subset_pick (st : State) (c : Cand) : st.chosen ⊆ (pick st c).chosen := by
  unfold pick
  split
  exacts [List.subset_append_left _ _, List.Subset.refl _]

theorem subset_foldl_pick (l : List Cand) (st : State) : st.chosen ⊆ (l.foldl pick st).chosen :=
  List.foldlRecOn (motive := fun st' => st.chosen ⊆ st'.chosen) l pick (List.Subset.refl _) fun st' h c _ =>
    List.Subset.trans h (subset_pick st' c)

/-- one step of the fold over the selected combination `sol`, which stays in the table -/
theorem pick_inv {inp : SelInput} {groups : List (Nat × List Nat)} {reqs : List Nat} {sol : List Cand}
    (hsol : (sol.map Prod.fst).Nodup) (hreq : ∀ x ∈ sol, x.1 ∈ reqs) {st : State} (h : Step5Inv inp groups reqs st)
    (hs : sol ∈ combosOf st.table) {c : Cand} (hc : c ∈ sol) :
    Step5Inv inp groups reqs (pick st c) ∧ sol ∈ combosOf (pick st c).table ∧ c ∈ (pick st c).chosen := by
  obtain ⟨cands, todo, chosen⟩ := st
  unfold pick
  split
  next hin =>
    have hnew : c.1 ∉ chosen.map Prod.fst := ((h.mem_todo c.1).1 (List.contains_iff_mem.1 hin)).2
    refine ⟨{ good := removeCandidate_good c h.good
              agree := fun c0 hc0 s hs x hx hxc => ?_
              mem_todo := fun r => ?_
              chosen_nodup := ?_
              todo_nodup := h.todo_nodup.erase _ }, ?_, List.mem_append_right _ (List.mem_singleton_self c)⟩
    · obtain ⟨hs, hsc⟩ := mem_combosOf_removeCandidate.1 hs
      rcases List.mem_append.1 hc0 with h0 | h0
      · exact h.agree c0 h0 s hs x hx hxc
      · cases List.mem_singleton.1 h0
        exact hsc x hx hxc
    · simp only [State.todo, State.chosen, h.todo_nodup.mem_erase_iff, h.mem_todo r, List.map_append, List.map_cons, List.map_nil,
        List.mem_append, List.mem_singleton, not_or]
      rw [and_comm, and_assoc]
    · rw [List.map_append]
      exact h.chosen_nodup.append (List.nodup_singleton _) (List.disjoint_singleton.2 hnew)
    · exact mem_combosOf_removeCandidate.2 ⟨hs, fun x hx e => List.inj_on_of_nodup_map hsol hx hc e⟩
  next hin =>
    refine ⟨h, hs, ?_⟩
    -- the request of `c` is served already, by a path that `sol` agrees with
    have : c.1 ∈ chosen.map Prod.fst :=
      by_contra fun hn => hin (List.contains_iff_mem.2 ((h.mem_todo c.1).2 ⟨hreq c hc, hn⟩))
    obtain ⟨c0, hc0, h0⟩ := List.mem_map.1 this
    exact h.agree c0 hc0 sol hs c hc h0.symm ▸ hc0

theorem fold_pick_inv {inp : SelInput} {groups : List (Nat × List Nat)} {reqs : List Nat} {sol : List Cand}
    (hsol : (sol.map Prod.fst).Nodup) (hreq : ∀ x ∈ sol, x.1 ∈ reqs) :
    ∀ {part : List Cand} {st : State}, part ⊆ sol → Step5Inv inp groups reqs st → sol ∈ combosOf st.table →
      Step5Inv inp groups reqs (part.foldl pick st) ∧ part ⊆ (part.foldl pick st).chosen
  | [], st, _, h, _ => ⟨h, List.nil_subset _⟩
  | c :: part, st, hp, h, hs => by
    obtain ⟨hp1, hp2⟩ := List.cons_subset.1 hp
    obtain ⟨hinv, hs', hc⟩ := pick_inv hsol hreq h hs hp1
    obtain ⟨hinv', hpart⟩ := fold_pick_inv hsol hreq hp2 hinv hs'
    exact ⟨hinv', List.cons_subset.2 ⟨subset_foldl_pick part _ hc, hpart⟩⟩

theorem step5_go_cons (d : Nat) (ds : List Nat) (st : State) :
    step5.go (d :: ds) st.table st.todo st.chosen =
      ((st.table.lookup d).bind (·.head?)).bind fun sol =>
        step5.go ds (sol.foldl pick st).table (sol.foldl pick st).todo (sol.foldl pick st).chosen := by
  rw [step5.go]
  cases (st.table.lookup d).bind (·.head?) <;> rfl

/-- a successful run of step 5 from a state that satisfies the invariant keeps the paths chosen so far, serves no
request twice, and holds a whole combination of every vector it visits -/
theorem step5_go_sound {inp : SelInput} {groups : List (Nat × List Nat)} {reqs : List Nat}
    (hids : (groups.map (·.1)).Nodup) (hdl : ∀ g ∈ groups, g.2.Nodup)
    (hreqs : ∀ g ∈ groups, ∀ r ∈ g.2, r ∈ reqs) :
    ∀ {order : List Nat} (st : State) {result : List Cand}, Step5Inv inp groups reqs st →
      step5.go order st.table st.todo st.chosen = some result →
      st.chosen ⊆ result ∧ (result.map Prod.fst).Nodup ∧
      ∀ d ∈ order, ∀ g ∈ groups, g.1 = d → ∃ sol, Combo inp g.2 sol ∧ sol ⊆ result
  | [], st, result, hinv, hgo => by
    cases hgo
    exact ⟨List.Subset.refl _, hinv.chosen_nodup, nofun⟩
  | d :: ds, st, result, hinv, hgo => by
    rw [step5_go_cons] at hgo
    obtain ⟨sol, hl, hgo⟩ := Option.bind_eq_some_iff.1 hgo
    obtain ⟨combos, hcombos, hhead⟩ := Option.bind_eq_some_iff.1 hl
    have he : (d, combos) ∈ st.table := by
      obtain ⟨l₁, l₂, e, _⟩ := List.lookup_eq_some_iff.1 hcombos
      exact e ▸ List.mem_append_right _ List.mem_cons_self
    have hsolmem : sol ∈ combos := List.mem_of_mem_head? hhead
    obtain ⟨g0, hg0, hg0d, hgood⟩ := hinv.good (d, combos) he
    have hgsol := hgood sol hsolmem
    obtain ⟨hinv', hsol⟩ := fold_pick_inv (hgsol.1 ▸ hdl g0 hg0)
      (fun x hx => hreqs g0 hg0 _ (hgsol.1 ▸ List.mem_map_of_mem hx)) (List.Subset.refl sol) hinv
      (List.mem_flatMap.2 ⟨_, he, hsolmem⟩)
    obtain ⟨hsub, hnd, hrest⟩ := step5_go_sound hids hdl hreqs _ hinv' hgo
    refine ⟨fun x hx => hsub (subset_foldl_pick sol st hx), hnd, fun d' hd' g hg hgd => ?_⟩
    rcases List.mem_cons.1 hd' with rfl | hd'
    · cases List.inj_on_of_nodup_map hids hg hg0 (hgd.trans hg0d.symm)
      exact ⟨sol, hgsol, fun x hx => hsub (hsol hx)⟩
    · exact hrest d' hd' g hg hgd

/-- **steps 2-5 are sound for any set of vectors**: what they return serves no request twice and holds, for every
vector, a whole combination of that vector -/
theorem selectDisjoint_sound {inp : SelInput} {groups : List (Nat × List Nat)} {reqs : List Nat} {chosen : List Cand}
    (hids : (groups.map (·.1)).Nodup) (hdl : ∀ g ∈ groups, g.2.Nodup)
    (hreqs : ∀ g ∈ groups, ∀ r ∈ g.2, r ∈ reqs) (hnd : reqs.Nodup)
    (h : selectDisjoint inp groups reqs = some chosen) :
    (chosen.map Prod.fst).Nodup ∧ ∀ g ∈ groups, ∃ sol, Combo inp g.2 sol ∧ sol ⊆ chosen := by
  unfold selectDisjoint step5 at h
  have hgood2 : GoodTable inp groups (groups.map (fun g => (g.1, step2 inp g.2))) :=
    List.forall_mem_map.2 fun g hg => ⟨g, hg, rfl, fun sol hsol => (mem_step2_iff.1 hsol).2⟩
  have hgood3 := step3_good reqs hgood2
  have hgood4 := goodTable_map (fun x => (x.1, step4 inp x.2)) (fun e => ⟨rfl, step4_subset inp e.2⟩) hgood3
  obtain ⟨_, huniq, hall⟩ := step5_go_sound hids hdl hreqs (_, reqs, [])
    { good := hgood4, agree := nofun, mem_todo := fun r => by simp [State.todo, State.chosen],
      chosen_nodup := List.nodup_nil, todo_nodup := hnd } h
  exact ⟨huniq, fun g hg => hall g.1 (List.mem_map_of_mem hg) g hg rfl⟩

end Gnpy.Route
