import GnpyModel
import GnpyProofs.Lemmas.Route
/- OMS chains: their short lists and the consecutive pairs `isdisjoint` compares (C12), and the chain of the reversed
   path (`reverse_sites`, `reverse_adjacent`; C11, C12 `linkDisjoint_iff`).  Model: GnpyModel/Route.lean. -/
namespace Gnpy.Route

/-- consecutive OMS of a chain share their ROADM -/
def Adjacent (c : List Oms) : Prop := List.IsChain (fun a b => a.dst = b.src) c

/-! ### short lists and `isdisjoint` -/

/-- the two consecutive pairs an OMS contributes to `pairwise(short_list)` -/
def omsPairs (o : Oms) : List (V × V) := [(o.src, o.first), (o.first, o.dst)]

theorem shortOf_cons (o : Oms) (rest : List Oms) :
    ∃ tl, shortOf (o :: rest) = o.src :: o.first :: tl := by
  cases rest with
  | nil => exact ⟨[o.dst], rfl⟩
  | cons o' r => exact ⟨shortOf (o' :: r), rfl⟩

/-- `pairwise(short_list)` of a path = the pairs of the OMS it crosses -/
theorem pairsOf_shortOf : ∀ {c : List Oms}, Adjacent c → pairsOf (shortOf c) = c.flatMap omsPairs
  | [], _ => rfl
  | [o], _ => rfl
  | o :: o' :: rest, h => by
    obtain ⟨hadj, htail⟩ := List.isChain_cons_cons.1 h
    obtain ⟨tl, htl⟩ := shortOf_cons o' rest
    rw [List.flatMap_cons, ← pairsOf_shortOf htail, shortOf, htl, omsPairs, hadj]
    rfl

theorem mem_flatMap_omsPairs {c : List Oms} {e : V × V} :
    e ∈ c.flatMap omsPairs ↔ ∃ o ∈ c, e = (o.src, o.first) ∨ e = (o.first, o.dst) := by
  simp only [List.mem_flatMap, omsPairs, List.mem_cons, List.not_mem_nil, or_false]

/-- line elements are not ROADMs and the first line element identifies its OMS -/
def Separated (c1 c2 : List Oms) : Prop :=
  ∀ o ∈ c1, ∀ o' ∈ c2, (o.first = o'.first → o = o') ∧ o.first ≠ o'.src ∧ o.first ≠ o'.dst ∧ o'.first ≠ o.src ∧
    o'.first ≠ o.dst

theorem isdisjointPy_eq_zero_iff (a b : List V) :
    isdisjointPy a b = 0 ↔ ∀ e ∈ pairsOf a, e ∉ pairsOf b := by
  simp only [isdisjointPy, List.contains_eq_mem, List.any_eq_true, decide_eq_true_eq, ite_eq_right_iff, one_ne_zero,
    imp_false, not_exists, not_and]

/-- the code's test on the short lists of two paths is 0 exactly when the paths share no OMS -/
theorem isdisjoint_chain_iff {c1 c2 : List Oms} (h1 : Adjacent c1) (h2 : Adjacent c2) (hs : Separated c1 c2) :
    isdisjointPy (shortOf c1) (shortOf c2) = 0 ↔ ∀ o ∈ c1, o ∉ c2 := by
  rw [isdisjointPy_eq_zero_iff, pairsOf_shortOf h1, pairsOf_shortOf h2]
  constructor
  · intro h o ho ho'
    exact h (o.src, o.first) (mem_flatMap_omsPairs.2 ⟨o, ho, Or.inl rfl⟩)
      (mem_flatMap_omsPairs.2 ⟨o, ho', Or.inl rfl⟩)
  · intro h e he he'
    obtain ⟨o, ho, hoe⟩ := mem_flatMap_omsPairs.1 he
    obtain ⟨o', ho', hoe'⟩ := mem_flatMap_omsPairs.1 he'
    obtain ⟨hinj, hn1, -, hn3, -⟩ := hs o ho o' ho'
    rcases hoe with rfl | rfl
    · -- `e` is the pair (ROADM, first element) of `o`
      rcases hoe' with h' | h' <;> rw [Prod.mk.injEq] at h'
      · -- and of `o'`: same first element, same OMS
        exact h o ho (hinj h'.2 ▸ ho')
      · -- and the pair (first element, ROADM) of `o'`: the ROADM of `o` would be a line element
        exact hn3 h'.1.symm
    · -- `e` is the pair (first element, ROADM) of `o`
      rcases hoe' with h' | h' <;> rw [Prod.mk.injEq] at h'
      · -- and the pair (ROADM, first element) of `o'`: the ROADM of `o'` would be a line element
        exact hn1 h'.1
      · -- and of `o'`: same first element, same OMS
        exact h o ho (hinj h'.1 ▸ ho')

/-! ### the chain of the reversed path -/

/-- the reversed OMS runs between the same ROADMs in the opposite direction -/
def RevOk (rev : Oms → Oms) (c : List Oms) : Prop := ∀ o ∈ c, (rev o).src = o.dst ∧ (rev o).dst = o.src

theorem mem_revChain (rev : Oms → Oms) (c : List Oms) (x : Oms) : x ∈ revChain rev c ↔ ∃ o ∈ c, rev o = x := by
  simp only [revChain, List.mem_reverse, List.mem_map]

theorem revChain_cons (rev : Oms → Oms) (o : Oms) (c : List Oms) :
    revChain rev (o :: c) = revChain rev c ++ [rev o] := by
  simp [revChain]

theorem sitesOf_append_singleton (l : List Oms) (x : Oms) (hl : l ≠ []) :
    sitesOf (l ++ [x]) = sitesOf l ++ [x.dst] := by
  cases l with
  | nil => exact absurd rfl hl
  | cons a t => simp [sitesOf]

/-- **C11, reverse path**: the path rebuilt from the reversed OMS (`find_reversed_path`: reversed OMS of every crossed
OMS, in reverse order) visits the same sites (ROADMs) in reverse.  `c` is the chain of OMS the forward path crosses,
`rev` maps an OMS to `oms.reversed_oms` (same two ROADMs, opposite direction). -/
theorem reverse_sites (rev : Oms → Oms) : ∀ c : List Oms, Adjacent c → RevOk rev c →
    sitesOf (revChain rev c) = (sitesOf c).reverse
  | [], _, _ => by simp [revChain, sitesOf]
  | [o], _, hr => by
    have := hr o (by simp)
    simp [revChain, sitesOf, this.1, this.2]
  | o :: o' :: rest, hc, hr => by
    have hadj : o.dst = o'.src := (List.isChain_cons_cons.1 hc).1
    have ih := reverse_sites rev (o' :: rest) (List.isChain_cons_cons.1 hc).2
      (fun x hx => hr x (List.mem_cons_of_mem _ hx))
    rw [revChain_cons, sitesOf_append_singleton _ _ (by simp [revChain]), ih, (hr o (by simp)).2]
    simp only [sitesOf, List.map_cons, List.reverse_cons, List.append_assoc, List.cons_append, List.nil_append]
    rw [hadj]

/-- the reversed chain is again a chain of adjacent OMS: the reverse path follows existing links -/
theorem reverse_adjacent (rev : Oms → Oms) (c : List Oms) (hc : Adjacent c) (hr : RevOk rev c) :
    Adjacent (revChain rev c) := by
  unfold Adjacent revChain at *
  rw [List.isChain_reverse, List.isChain_map]
  exact hc.imp_of_mem_imp fun a b ha hb hab => by rw [(hr a ha).1, (hr b hb).2, hab]

end Gnpy.Route
