import Mathlib.Data.List.Forall2
import GnpyProofs.Lemmas.Except
/- `List.mapM` in `Except` succeeds exactly when every element does: the results are related to the inputs by `Forall₂`;
   and what `Forall₂` says about single members and positions. -/

namespace List.Forall₂
variable {α β γ : Type} {R : α → β → Prop} {l : List α} {r : List β}

theorem exists_right (h : Forall₂ R l r) {x : α} (hx : x ∈ l) : ∃ y ∈ r, R x y := by
  induction h with
  | nil => cases hx
  | cons hab _ ih =>
    rcases List.mem_cons.1 hx with rfl | hx
    · exact ⟨_, List.mem_cons_self, hab⟩
    · exact (ih hx).imp fun _ hy => ⟨List.mem_cons_of_mem _ hy.1, hy.2⟩

theorem exists_left (h : Forall₂ R l r) {y : β} (hy : y ∈ r) : ∃ x ∈ l, R x y :=
  exists_right h.flip hy

theorem map_eq_map (h : Forall₂ R l r) {f : α → γ} {g : β → γ} (hfg : ∀ x y, R x y → f x = g y) :
    l.map f = r.map g := by
  rw [← List.forall₂_eq_eq_eq, List.forall₂_map_left_iff, List.forall₂_map_right_iff]
  exact h.imp hfg

theorem getElem?_left (h : Forall₂ R l r) {i : Nat} {a : α} (ha : l[i]? = some a) : ∃ b, r[i]? = some b ∧ R a b := by
  induction h generalizing i with
  | nil => cases ha
  | cons hab _ ih =>
    cases i with
    | zero => cases ha; exact ⟨_, rfl, hab⟩
    | succ i => exact ih ha

theorem getElem?_right (h : Forall₂ R l r) {i : Nat} {b : β} (hb : r[i]? = some b) : ∃ a, l[i]? = some a ∧ R a b :=
  getElem?_left h.flip hb

end List.Forall₂

namespace Gnpy.Except
variable {ε α β : Type}

theorem mapM_eq_ok {f : α → Except ε β} : ∀ {l : List α} {r : List β},
    l.mapM f = .ok r ↔ List.Forall₂ (fun x y => f x = .ok y) l r
  | [], r => by rw [List.mapM_nil, pure_eq_ok_iff, List.forall₂_nil_left_iff, eq_comm]
  | a :: l, r => by
    simp only [List.mapM_cons, bind_eq_ok, pure_eq_ok_iff, mapM_eq_ok (l := l)]
    constructor
    · rintro ⟨y, hy, ys, hys, rfl⟩; exact .cons hy hys
    · rintro (_ | ⟨hy, hys⟩); exact ⟨_, hy, _, hys, rfl⟩

end Gnpy.Except

namespace Gnpy

/-- the `Option` twin of `Except.mapM_eq_ok` for a traversal the model writes out by hand ("every element in turn, give
up at the first failure"): a function with the two equations of `mapM f` relates inputs and results by `Forall₂` -/
theorem forall₂_of_traverse {β γ : Type} (f : β → Option γ) (F : List β → Option (List γ))
    (h0 : F [] = some []) (hc : ∀ b bs, F (b :: bs) = (f b).bind fun p => (F bs).map (p :: ·)) :
    ∀ bs ps, F bs = some ps → List.Forall₂ (fun b p => f b = some p) bs ps := by
  intro bs
  induction bs with
  | nil =>
    intro ps h
    rw [h0, Option.some.injEq] at h
    subst h
    exact List.Forall₂.nil
  | cons b rest ih =>
    intro ps h
    rw [hc, Option.bind_eq_some_iff] at h
    obtain ⟨p, hp, h⟩ := h
    rw [Option.map_eq_some_iff] at h
    obtain ⟨ps', hps, rfl⟩ := h
    exact List.Forall₂.cons hp (ih ps' hps)

end Gnpy
