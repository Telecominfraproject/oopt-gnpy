/- `Except` as the models use it (`do`-blocks of Python functions that may raise): `simp` with these lemmas computes
   `>>=`/`pure` on constructors (`ok_bind`, `error_bind`, `pure_eq_ok`; `bind_ok_right` for a block that ends
   `let r ← m; pure r`); `simp only [f, ite_eq_ok, bind_eq_ok, pure_eq_ok_iff] at h` inverts a `do`-block that is known to have succeeded, turning
   `(do let a ← x; let b ← g a; pure (k a b)) = .ok r` into `∃ a, x = .ok a ∧ ∃ b, g a = .ok b ∧ k a b = r`.
   A raising guard in front of the rest is inverted by `ite_error_eq_ok` / `ite_throw_eq_ok`; do not hand these to one
   `simp only` together with the general `ite_eq_ok`, which matches the same guards and leaves `error = ok` behind.
   Core Lean only. -/
namespace Gnpy.Except
variable {ε α β : Type}

@[simp] theorem ok_bind (x : α) (f : α → Except ε β) : (Except.ok x >>= f) = f x := rfl

@[simp] theorem error_bind (e : ε) (f : α → Except ε β) : (Except.error e >>= f) = .error e := rfl

@[simp] theorem pure_eq_ok (x : α) : (pure x : Except ε α) = .ok x := rfl

@[simp] theorem bind_ok_right (m : Except ε α) : (m >>= Except.ok) = m := by cases m <;> rfl

theorem bind_eq_ok {m : Except ε α} {f : α → Except ε β} {r : β} :
    (m >>= f) = .ok r ↔ ∃ x, m = .ok x ∧ f x = .ok r := by
  cases m <;> simp

theorem pure_eq_ok_iff {a b : α} : (pure a : Except ε α) = .ok b ↔ a = b := by
  rw [pure_eq_ok, Except.ok.injEq]

theorem ite_eq_ok {c : Prop} [Decidable c] {x y : Except ε α} {b : α} :
    (if c then x else y) = .ok b ↔ (c ∧ x = .ok b) ∨ (¬ c ∧ y = .ok b) := by
  split <;> simp [*]

/-- a guard `if c then throw e else x` succeeds exactly when the guard is false and the rest succeeds; `simp only` with
this lemma turns "a chain of checks returned `ok r`" into the conjunction of all the checks -/
theorem ite_error_eq_ok {c : Prop} [Decidable c] {e : ε} {x : Except ε α} {r : α} :
    (if c then Except.error e else x) = .ok r ↔ ¬ c ∧ x = .ok r := by
  by_cases h : c <;> simp [h]

/-- the same guard where the model writes `throw e` (which `simp only` does not see as `.error e`) -/
theorem ite_throw_eq_ok {c : Prop} [Decidable c] {e : ε} {x : Except ε α} {r : α} :
    (if c then throw e else x) = .ok r ↔ ¬ c ∧ x = .ok r :=
  ite_error_eq_ok

/-- `mapM` of a function that returns every member unchanged returns the list: the diagonal case of `mapM_eq_ok`
(Lemmas/MapM.lean), for the files that stay without Mathlib's `Forall₂` -/
theorem mapM_id (f : α → Except ε α) : ∀ (l : List α), (∀ x ∈ l, f x = .ok x) → l.mapM f = .ok l
  | [], _ => rfl
  | x :: xs, h => by
    obtain ⟨hx, hxs⟩ := List.forall_mem_cons.1 h
    simp [List.mapM_cons, hx, mapM_id f xs hxs]

end Gnpy.Except
