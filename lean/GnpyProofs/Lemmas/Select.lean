import GnpyModel
import GnpyProofs.Lemmas.Edfa
import GnpyProofs.Lemmas.ListIdioms
import GnpyProofs.Lemmas.MapM
/-
Lemmas for C10 (amplifier selection; Model: GnpyModel/Select.lean), in the order of the model file: what its
definitions return (`mem_X` for the lists it builds, `X_eq` for closed forms, `X_eq_some` for what a successful call
returned), the NF order on `Option ℝ` (`none` = −∞, i.e. `<` on `WithBot ℝ`) and the first-minimum folds.
-/
namespace Gnpy.Select
open Gnpy.Edfa

/-! ### `get_node_restrictions`, `raman_allowed` -/

theorem mem_nodeRestrictions (lib : List (AmpSpec ℝ)) (c : NodeCtx) (b : Band) (n : String) (h0 : c.typeVariety = "") :
    n ∈ nodeRestrictions lib c b ↔
      ∃ a ∈ lib, a.name = n ∧ a.isMulti = false ∧ a.fMin ≤ b.fMin ∧ b.fMax ≤ a.fMax ∧
        (n ∈ restrictionList c ∨ (restrictionList c = [] ∧ a.allowedForDesign = true)) := by
  simp only [nodeRestrictions, h0, ne_eq, not_true_eq_false, if_false, List.mem_map, List.mem_filter,
    Bool.and_eq_true, Bool.not_eq_true', AmpSpec.covers, decide_eq_true_eq, allowedBy, Bool.or_eq_true,
    List.contains_iff_mem, List.isEmpty_iff]
  constructor
  · rintro ⟨a, ⟨ha, ⟨hm, h1, h2⟩, h3⟩, rfl⟩
    exact ⟨a, ha, rfl, hm, h1, h2, h3⟩
  · rintro ⟨a, ha, rfl, hm, h1, h2, h3⟩
    exact ⟨a, ⟨ha, ⟨hm, h1, h2⟩, h3⟩, rfl⟩

/-- Raman is allowed exactly after a fibre all of whose loss coefficients are below the configured limit -/
theorem ramanAllowed_spec (isFiber : Bool) (loss : List ℝ) (limit : ℝ) :
    ramanAllowed isFiber loss limit = true ↔ isFiber = true ∧ ∀ l ∈ loss, l < limit * (1 / 1000) := by
  simp only [ramanAllowed, Bool.and_eq_true, List.all_eq_true, decide_eq_true_eq, Nat.cast_one, Nat.cast_ofNat]

/-! ### `filter_edfa_list_based_on_targets`: the candidates, the power stage and the acceptable list -/

/-- the candidates offered to the filter: one per library model, Raman models only when Raman is allowed -/
theorem mem_candidates (lib : List (AmpSpec ℝ)) (ok : Bool) (g p e : ℝ) (y : Cand ℝ) :
    y ∈ edfaList lib g p e ++ ramanList lib ok g p e ↔
      ∃ a ∈ lib, (a.raman = false ∨ ok = true) ∧ cand a g p e = y := by
  have hr : y ∈ ramanList lib ok g p e ↔ ∃ a, (a ∈ lib ∧ a.raman = true ∧ ok = true) ∧ cand a g p e = y := by
    rw [ramanList]
    cases ok
    · simp only [Bool.false_eq_true, if_false, List.not_mem_nil, and_false, false_and, exists_false]
    · simp only [if_true, List.mem_map, List.mem_filter, and_true]
  simp only [List.mem_append, hr, edfaList, List.mem_map, List.mem_filter, Bool.not_eq_true', ← exists_or,
    ← and_or_left, and_assoc]
  refine exists_congr fun a => and_congr_right fun _ => ?_
  cases a.raman <;> simp

/-- Python's `max` over the power attributes: an upper bound that is attained -/
theorem maxPower_spec {l : List (Cand ℝ)} (h : l ≠ []) :
    (∀ x ∈ l, x.power ≤ maxPower l) ∧ ∃ x ∈ l, x.power = maxPower l := by
  cases l with
  | nil => exact absurd rfl h
  | cons y ys =>
    exact (foldl_firstBest_cons (·.power) (fun x b : ℝ => b < x) (fun _ _ h => lt_asymm h)
      (fun _ _ _ h1 h2 => not_lt.2 ((not_lt.1 h1).trans (not_lt.1 h2))) y ys).imp_left
      fun h x hx => not_lt.1 (h x hx)

/-- the power stage with its emptiness test read as a proposition, and the code's `−0.3 < power − max` as
`max − 3/10 < power` -/
theorem powerStage_eq (l : List (Cand ℝ)) :
    powerStage l = if ∃ x ∈ l, 0 < x.power then l.filter (fun x => decide (0 < x.power))
      else l.filter (fun x => decide (maxPower l - 3 / 10 < x.power)) := by
  simp only [powerStage, ite_isEmpty_filter, decide_eq_true_eq, zero_eq, c03, Nat.cast_ofNat,
    neg_lt_sub_iff_lt_add', sub_lt_iff_lt_add]

theorem powerStage_subset (l : List (Cand ℝ)) : powerStage l ⊆ l := by
  rw [powerStage_eq]
  split <;> exact List.filter_sublist.subset

theorem powerStage_capable (l : List (Cand ℝ)) (h : ∃ x ∈ l, 0 < x.power) :
    powerStage l = l.filter (fun x => decide (0 < x.power)) := by
  rw [powerStage_eq, if_pos h]

theorem mem_powerStage_fallback (l : List (Cand ℝ)) (h : ∀ x ∈ l, ¬ 0 < x.power) (y : Cand ℝ) :
    y ∈ powerStage l ↔ y ∈ l ∧ maxPower l - 3 / 10 < y.power := by
  rw [powerStage_eq, if_neg (fun ⟨x, hx, hp⟩ => h x hx hp), List.mem_filter, decide_eq_true_eq]

theorem powerStage_ne_nil {l : List (Cand ℝ)} (hne : l ≠ []) : powerStage l ≠ [] := by
  by_cases h : ∃ x ∈ l, 0 < x.power
  · obtain ⟨x, hx, hp⟩ := h
    rw [powerStage_capable l ⟨x, hx, hp⟩]
    exact List.ne_nil_of_mem (List.mem_filter.2 ⟨hx, decide_eq_true hp⟩)
  · obtain ⟨_, x, hx, e⟩ := maxPower_spec hne
    exact List.ne_nil_of_mem
      ((mem_powerStage_fallback l (fun x hx hp => h ⟨x, hx, hp⟩) x).2 ⟨hx, by rw [e]; linarith⟩)

/-- `filter_edfa_list_based_on_targets` with its emptiness tests read as propositions -/
theorem acceptable_eq (e r : List (Cand ℝ)) :
    acceptable e r = if ∃ x ∈ e ++ r, 0 < x.gainMin
      then some (powerStage ((e ++ r).filter (fun x => decide (0 < x.gainMin))))
      else if e = [] then none else some (powerStage e) := by
  rw [acceptable, ite_isEmpty_filter]
  simp only [decide_eq_true_eq, zero_eq, List.isEmpty_iff]

/-- an accepted list is the power stage of a non-empty list of candidates: those that reach their minimum gain, or, when
nobody does, the non-Raman ones -/
theorem acceptable_eq_some {e r l : List (Cand ℝ)} (h : acceptable e r = some l) :
    ∃ l₀, l₀ ≠ [] ∧ l₀ ⊆ e ++ r ∧ l = powerStage l₀ := by
  rw [acceptable_eq] at h
  split_ifs at h with hg he
  · obtain ⟨x, hx, hg⟩ := hg
    exact ⟨_, List.ne_nil_of_mem (List.mem_filter.2 ⟨hx, decide_eq_true hg⟩), List.filter_sublist.subset,
      (Option.some.inj h).symm⟩
  · exact ⟨e, he, List.subset_append_left _ _, (Option.some.inj h).symm⟩

theorem acceptable_subset {e r l : List (Cand ℝ)} (h : acceptable e r = some l) : l ⊆ e ++ r := by
  obtain ⟨l₀, _, hs, rfl⟩ := acceptable_eq_some h
  exact List.Subset.trans (powerStage_subset l₀) hs

theorem acceptable_ne_nil {e r l : List (Cand ℝ)} (h : acceptable e r = some l) : l ≠ [] := by
  obtain ⟨l₀, hne, _, rfl⟩ := acceptable_eq_some h
  exact powerStage_ne_nil hne

theorem acceptable_eq_none_iff (e r : List (Cand ℝ)) :
    acceptable e r = none ↔ e = [] ∧ ∀ x ∈ r, ¬ 0 < x.gainMin := by
  rw [acceptable_eq]
  constructor
  · intro h
    split_ifs at h with hg he
    exact ⟨he, fun x hx hp => hg ⟨x, List.mem_append_right _ hx, hp⟩⟩
  · rintro ⟨rfl, hr⟩
    rw [if_neg (fun ⟨x, hx, hp⟩ => hr x (by simpa using hx) hp), if_pos rfl]

/-- some candidate is capable (gain and power): the acceptable list is exactly the capable candidates -/
theorem acceptable_capable (e r : List (Cand ℝ)) (h : ∃ x ∈ e ++ r, 0 < x.gainMin ∧ 0 < x.power) :
    acceptable e r = some ((e ++ r).filter (fun x => decide (0 < x.gainMin) && decide (0 < x.power))) := by
  obtain ⟨x, hx, hg, hp⟩ := h
  rw [acceptable_eq, if_pos ⟨x, hx, hg⟩,
    powerStage_capable _ ⟨x, List.mem_filter.2 ⟨hx, decide_eq_true hg⟩, hp⟩, List.filter_filter]
  simp only [Bool.and_comm]

/-- `acceptable_capable` for the candidate lists of a library, the capable candidate given as a library model -/
theorem acceptable_of_capable (lib : List (AmpSpec ℝ)) (ok : Bool) (g p e : ℝ)
    (hcap : ∃ a ∈ lib, (a.raman = false ∨ ok = true) ∧ 0 < gainMinAttr a g ∧ 0 < powerAttr a g p e) :
    acceptable (edfaList lib g p e) (ramanList lib ok g p e) =
      some ((edfaList lib g p e ++ ramanList lib ok g p e).filter
        (fun x => decide (0 < x.gainMin) && decide (0 < x.power))) := by
  obtain ⟨a, ha, hr, hg, hp⟩ := hcap
  exact acceptable_capable _ _ ⟨cand a g p e, (mem_candidates ..).2 ⟨a, ha, hr, rfl⟩, hg, hp⟩

/-! ### the NF order (`none` = −∞ dB), `min(key=…)`, `select_edfa` -/

/-- `nfLt` is `<` on `WithBot ℝ` (which is `Option ℝ` with `none` as bottom) -/
theorem nfLt_iff (a b : WithBot ℝ) : nfLt a b = true ↔ a < b := by
  cases a <;> cases b <;> simp [nfLt]

theorem nfLt_asymm {a b : Option ℝ} (h : nfLt a b = true) : ¬ nfLt b a = true :=
  fun h' => lt_asymm ((nfLt_iff a b).1 h) ((nfLt_iff b a).1 h')

theorem nfLt_irrefl (a : Option ℝ) : nfLt a a = false :=
  Bool.eq_false_iff.2 fun h => nfLt_asymm h h

/-- `≥` is transitive: `a < c ≤ b` would give `a < b` -/
theorem nfLt_ge_trans {a b c : Option ℝ} (h1 : ¬ nfLt a b = true) (h2 : ¬ nfLt b c = true) : ¬ nfLt a c = true :=
  fun h => h1 ((nfLt_iff a b).2 (((nfLt_iff a c).1 h).trans_le (not_lt.1 fun hbc => h2 ((nfLt_iff b c).2 hbc))))

/-- Python's `min(key=…)`: the result is an element and no element is smaller -/
theorem argminNf_first (l : List (Cand ℝ)) (c : Cand ℝ) (h : argminNf l = some c) :
    c ∈ l ∧ ∀ x ∈ l, nfLt x.nf c.nf = false := by
  cases l with
  | nil => cases h
  | cons y ys =>
    obtain ⟨h1, x, hx, e⟩ := foldl_firstBest_cons (fun x => x) (fun x b : Cand ℝ => nfLt x.nf b.nf = true)
      (fun _ _ => nfLt_asymm) (fun _ _ _ => nfLt_ge_trans) y ys
    rw [show ys.foldl _ y = c from Option.some.inj h] at h1 e
    exact ⟨e ▸ hx, fun x hx => Bool.eq_false_iff.2 (h1 x hx)⟩

theorem argminNf_some {l : List (Cand ℝ)} (h : l ≠ []) : ∃ c, argminNf l = some c := by
  cases l with
  | nil => exact absurd rfl h
  | cons y ys => exact ⟨_, rfl⟩

/-- what a successful `select_edfa` returned: the first NF-minimal candidate of the acceptable list -/
theorem selectEdfa_eq_some {lib : List (AmpSpec ℝ)} {ok : Bool} {g p e : ℝ} {ch : Choice ℝ}
    (h : selectEdfa lib ok g p e = some ch) :
    ∃ l c, acceptable (edfaList lib g p e) (ramanList lib ok g p e) = some l ∧ argminNf l = some c ∧
      ch = { variety := c.variety, powerReduction := smin c.power Edfa.zero, nf := c.nf, power := c.power,
             gainMin := c.gainMin } := by
  rw [selectEdfa] at h
  split at h
  · cases h
  · next l hl =>
    split at h
    · cases h
    · next c hc => exact ⟨l, c, hl, hc, (Option.some.inj h).symm⟩

theorem mem_selectionLibrary (lib : List (AmpSpec ℝ)) (r : List String) (a : AmpSpec ℝ) :
    a ∈ selectionLibrary lib r ↔ a ∈ lib ∧ a.isMulti = false ∧ (r = [] ∨ a.name ∈ r) := by
  simp only [selectionLibrary, List.isEmpty_iff]
  split_ifs with hr <;> simp [hr, and_comm]

/-! ### multiband preselection (`preselect_multiband_amps`, `find_type_varieties`) -/

theorem mem_dedup (l : List String) (x : String) : x ∈ dedup l ↔ x ∈ l :=
  mem_keepFirst dedup rfl (fun _ _ => rfl) l x

theorem mem_membersOf (lib : List (AmpSpec ℝ)) (ms : List String) (t : String) :
    t ∈ membersOf lib ms ↔ ∃ m ∈ ms, ∃ a, lookup lib m = some a ∧ t ∈ a.multiBand.getD [] := by
  simp only [membersOf, List.mem_flatMap]
  refine exists_congr fun m => and_congr_right fun _ => ?_
  cases lookup lib m <;> simp

/-! ### the whole `Multiband_amplifier` branch of `set_egress_amplifier` -/

theorem findTypeVarietyE_mem (es : List (String × List String)) (picks : List String) (t : String) :
    t ∈ findTypeVarietyE es picks ↔ picks ≠ [] ∧ ∃ e ∈ es, e.1 = t ∧ ∀ p ∈ picks, p ∈ e.2 := by
  simp only [findTypeVarietyE]
  by_cases hp : picks = []
  · subst hp; simp
  · simp only [List.isEmpty_iff, if_false, List.mem_map, List.mem_filter, List.all_eq_true,
      List.contains_iff_mem, ne_eq, hp, not_false_eq_true, true_and]
    constructor
    · rintro ⟨e, ⟨he, hall⟩, rfl⟩; exact ⟨e, he, rfl, hall⟩
    · rintro ⟨e, he, rfl, hall⟩; exact ⟨e, ⟨he, hall⟩, rfl⟩

/-- when every entry that lists all the picks is named `m` (no twin entries), `find_type_variety` returns `m` only -/
theorem findTypeVariety_unique {lib : List (AmpSpec ℝ)} {picks : List String} {m : String}
    (huniq : ∀ e ∈ entriesOf lib, (∀ p ∈ picks, p ∈ e.2) → e.1 = m) (hne : findTypeVariety lib picks ≠ []) :
    (findTypeVariety lib picks).head? = some m ∧ ∀ t ∈ findTypeVariety lib picks, t = m := by
  have hall : ∀ t ∈ findTypeVariety lib picks, t = m := fun t ht => by
    obtain ⟨_, e, he, rfl, hp⟩ := (findTypeVarietyE_mem _ picks t).1 ht
    exact huniq e he hp
  obtain ⟨t, ts, hts⟩ := List.exists_cons_of_ne_nil hne
  exact ⟨by rw [hts, List.head?_cons, hall t (hts ▸ List.mem_cons_self)], hall⟩

theorem mem_bandRestrictions (lib : List (AmpSpec ℝ)) (redfa : List String) (b : Band) (n : String) :
    n ∈ bandRestrictions lib redfa b ↔ n ∈ redfa ∧ ∃ a, lookup lib n = some a ∧ a.covers b = true := by
  simp only [bandRestrictions, List.mem_filter]
  refine and_congr_right fun _ => ?_
  cases lookup lib n <;> simp

/-- the picks `pickAll` returned are the `bandPick`s of the bands, in order -/
theorem pickAll_eq_some {lib : List (AmpSpec ℝ)} {ext : ℝ} {ok : Bool} {redfa : List String}
    {bts : List (BandTarget ℝ)} {picks : List String} (h : pickAll lib ext ok redfa bts = some picks) :
    List.Forall₂ (fun bt pk => bandPick lib ext ok redfa bt = some pk) bts picks :=
  forall₂_of_traverse (bandPick lib ext ok redfa) (pickAll lib ext ok redfa) rfl (fun bt bts => by
    rw [pickAll]
    cases bandPick lib ext ok redfa bt with
    | none => rfl
    | some p => cases pickAll lib ext ok redfa bts <;> rfl) bts picks h

/-- what a successful `multibandDesign` returned: each stage succeeded on the result of the one before -/
theorem multibandDesign_eq_some {lib : List (AmpSpec ℝ)} {ext : ℝ} {c : NodeCtx} {ok : Bool}
    {bts : List (BandTarget ℝ)} {d : MultiDesign} (h : multibandDesign lib ext c ok bts = some d) :
    preselect lib ext d.permitted bts = some d.preselected ∧
    pickAll lib ext ok d.preselected bts = some d.picks ∧
    d.candidates = findTypeVariety lib d.picks ∧ d.candidates ≠ [] := by
  simp only [multibandDesign] at h
  split at h
  · cases h
  · next redfa hpre =>
    split at h
    · cases h
    · next picks hpick =>
      split at h
      · cases h
      · next t ts hc =>
        cases h
        exact ⟨hpre, hpick, hc.symm, List.cons_ne_nil _ _⟩

/-! ### a user-typed `Multiband_amplifier` -/

/-- the picks `typedPickAll` returned are the `typedPick`s of the amplifiers, in order -/
theorem typedPickAll_eq_some {lib : List (AmpSpec ℝ)} {ext : ℝ} {ok : Bool} {members : List String}
    {amps : List (BandTarget ℝ × String)} {picks : List String}
    (h : typedPickAll lib ext ok members amps = some picks) :
    List.Forall₂ (fun a pk => typedPick lib ext ok members a = some pk) amps picks :=
  forall₂_of_traverse (typedPick lib ext ok members) (typedPickAll lib ext ok members) rfl (fun a as => by
    rw [typedPickAll]
    cases typedPick lib ext ok members a with
    | none => rfl
    | some p => cases typedPickAll lib ext ok members as <;> rfl) amps picks h

/-- what a successful `typedDesign` returned: the typed entry exists, every amplifier has its pick, and the candidates
are the (non-empty) answer of `find_type_variety` on the picks -/
theorem typedDesign_eq_some {lib : List (AmpSpec ℝ)} {ext : ℝ} {tv : String} {ok : Bool}
    {amps : List (BandTarget ℝ × String)} {d : MultiDesign} (h : typedDesign lib ext tv ok amps = some d) :
    ∃ e, lookup lib tv = some e ∧ typedPickAll lib ext ok (e.multiBand.getD []) amps = some d.picks ∧
      d.candidates = findTypeVariety lib d.picks ∧ d.candidates ≠ [] := by
  simp only [typedDesign] at h
  split at h
  · cases h
  · next e he =>
    split at h
    · cases h
    · next picks hp =>
      split at h
      · cases h
      · next t ts hc =>
        cases h
        exact ⟨e, he, hp, hc.symm, List.cons_ne_nil _ _⟩

end Gnpy.Select
