import GnpyModel
import GnpyProofs.Lemmas.Design
import GnpyProofs.Props.C08
/- Property theorems for C09 — designed gains close the power budget and follow the documented power rule.
   Model: GnpyModel/Design.lean (`ampStep` = set_one_amplifier + set_amplifier_voa, `refPowers` / `refTargets` = the
   reference channel and the design targets along the walk of set_egress_amplifier, `targetPower`, `round2float`).
   All statements over ℝ, for every configuration. -/
namespace Gnpy.Chain

/-! ### the documented power rule: rounding and clamping -/

/-- Python's `round(x, 0)` is never further than 1/2 from `x` -/
theorem rint_error (x : ℝ) : |(Rint.rint x : ℝ) - x| ≤ 1 / 2 := HE.abs_rintR_sub_le x

/-- `round2float(x, step)` is within `s/2 + 0.05` of `x` for the effective step `s = round(step, 1) ≥ 0.01`,
and within `0.005` when the step is (rounded to) zero -/
theorem round2float_error (x step : ℝ) (hs : 0 ≤ round1 step) :
    (1 / 100 ≤ round1 step → |round2float x step - x| ≤ round1 step / 2 + 1 / 20) ∧
    (round1 step < 1 / 100 → |round2float x step - x| ≤ 1 / 200) := by
  have hh : (hundredth : ℝ) = 1 / 100 := by rw [hundredth, Nat.cast_one, Nat.cast_ofNat]
  refine ⟨fun h => ?_, fun h => ?_⟩
  · have hpos : 0 < round1 step := lt_of_lt_of_le (by norm_num) h
    rw [round2float, hh, if_pos h, rint_real, realRint_eq_rintR]
    -- `y = rint(x/s)·s` is within `s/2` of `x`, and `round(·, 1)` moves it by at most 0.05
    set y := HE.rintR (x / round1 step) * round1 step
    calc |round1 y - x| ≤ |round1 y - y| + |y - x| := abs_sub_le _ _ _
      _ ≤ 1 / 20 + round1 step / 2 := add_le_add (abs_round1_sub_le y) (HE.abs_rintR_div_mul_sub_le x hpos)
      _ = _ := by ring
  · rw [round2float, hh, if_neg (not_le.mpr h)]
    exact abs_round2_sub_le x

/-- **0 before a ROADM** -/
theorem targetPower_roadm (c : Cfg ℝ) (l : ℝ) : targetPower c true l = 0 := by
  simp [targetPower]

/-- **clamped to the configured range** -/
theorem targetPower_range (c : Cfg ℝ) (l : ℝ) (h : c.dpLo ≤ c.dpHi) :
    c.dpLo ≤ targetPower c false l ∧ targetPower c false l ≤ c.dpHi := by
  rw [targetPower_eq]
  exact ⟨le_min h (le_max_left _ _), min_le_left _ _⟩

/-- **slope × (next span loss − reference), rounded to the step**: when the rounded value lies inside the range the
target is that value, and it is within `s/2 + 0.05` of `slope·(loss − ref)` -/
theorem dp_rule_rounding (c : Cfg ℝ) (l : ℝ) (hs : 1 / 100 ≤ round1 c.dpStep)
    (hlo : c.dpLo ≤ round2float ((l - c.lossRef) * c.slope) c.dpStep)
    (hhi : round2float ((l - c.lossRef) * c.slope) c.dpStep ≤ c.dpHi) :
    targetPower c false l = round2float ((l - c.lossRef) * c.slope) c.dpStep ∧
    |targetPower c false l - c.slope * (l - c.lossRef)| ≤ round1 c.dpStep / 2 + 1 / 20 := by
  rw [targetPower_eq, max_eq_right hlo, min_eq_right hhi]
  refine ⟨rfl, ?_⟩
  rw [mul_comm c.slope]
  exact (round2float_error _ _ (by linarith)).1 hs

/-- **Where the operator set no offset it is the documented rule** (plus the operator's VOA, so that the power entering
the next span is the rule's value): `dp = target_power(next) + out_voa`. -/
theorem dp_rule (c : Cfg ℝ) (pref prefTotal prevDp prevVoa : ℝ) (a : AmpIn ℝ) (hu : a.user.deltaP = none)
    (hm : c.powerMode = true) :
    (ampStep c pref prefTotal prevDp prevVoa a).dp0 = targetPower c a.nextIsRoadm a.nextLoss + a.user.outVoa.getD 0 ∧
    (ampStep c pref prefTotal prevDp prevVoa a).retDp - (ampStep c pref prefTotal prevDp prevVoa a).retVoa
      = targetPower c a.nextIsRoadm a.nextLoss + (ampStep c pref prefTotal prevDp prevVoa a).reduction := by
  rw [ampStep_retVoa, ampStep_retDp, ampStep_dp0 c pref prefTotal prevDp prevVoa a (.inl hm), hu]
  refine ⟨rfl, ?_⟩
  simp only [Option.getD_none]
  ring

/-! ### the gain closes the budget -/

/-- **Each amplifier's gain equals the loss since the previous amplifier plus the change of target** (and its input
VOA): `gain = node_loss + _delta_p − (prev_dp − prev_voa) + in_voa`, in power mode and in gain mode, whatever the
user settings, reduction or VOA optimisation. -/
theorem gain_closes_budget (c : Cfg ℝ) (pref prefTotal prevDp prevVoa : ℝ) (a : AmpIn ℝ) :
    (ampStep c pref prefTotal prevDp prevVoa a).gain
      = a.nodeLoss + (ampStep c pref prefTotal prevDp prevVoa a).dpInt - (prevDp - prevVoa)
        + (ampStep c pref prefTotal prevDp prevVoa a).inVoa := by
  have h := ampStep_shift c pref prefTotal prevDp prevVoa a
  rw [h.1, h.2, ampStep_gain0, ampStep_retDp, ampStep_inVoa]
  ring

/-- what the next amplifier sees (`prev_dp − prev_voa`) is what leaves this one after its VOA (`_delta_p − out_voa`) -/
theorem net_offset (c : Cfg ℝ) (pref prefTotal prevDp prevVoa : ℝ) (a : AmpIn ℝ) :
    (ampStep c pref prefTotal prevDp prevVoa a).dpInt - (ampStep c pref prefTotal prevDp prevVoa a).outVoa
      = (ampStep c pref prefTotal prevDp prevVoa a).retDp - (ampStep c pref prefTotal prevDp prevVoa a).retVoa := by
  rw [(ampStep_shift c pref prefTotal prevDp prevVoa a).2]
  ring

/-- **The reference channel leaves every amplifier at reference power + its power offset** (and the fibre after the VOA
sees `p_ref + _delta_p − out_voa`): by induction along any OMS, for every mix of user settings, provided the loss
the design used for each span (`node_loss`) is the loss the channel really sees. -/
theorem ref_power_invariant (c : Cfg ℝ) (pref prefTotal : ℝ) :
    ∀ (steps : List (Step ℝ)) (p pd pv : ℝ), p = pref + pd - pv →
      (∀ s ∈ steps, s.trueLoss = s.inp.nodeLoss) →
      refPowers c pref prefTotal p pd pv steps = refTargets c pref prefTotal pd pv steps := by
  intro steps
  induction steps with
  | nil => intros; rfl
  | cons s rest ih =>
    intro p pd pv hp hl
    have e1 : p - s.trueLoss - (ampStep c pref prefTotal pd pv s.inp).inVoa + (ampStep c pref prefTotal pd pv s.inp).gain
        = pref + (ampStep c pref prefTotal pd pv s.inp).dpInt := by
      rw [gain_closes_budget, hl s List.mem_cons_self, hp]; ring
    simp only [refPowers, refTargets]
    rw [e1, ih _ _ _ (by linarith [net_offset c pref prefTotal pd pv s.inp])
      fun s' hs' => hl s' (List.mem_cons_of_mem _ hs')]

/-- the loss the gain computation uses for a padded span (`span_loss(prev_node)` with its cached
`design_span_loss`) is the loss of the span — so `ref_power_invariant` applies to padded spans as well -/
theorem nodeLoss_is_true_loss (padding : ℝ) (r : List (Elem ℝ)) (u : String) (p : FiberP ℝ) (v : String)
    (q : FiberP ℝ) (t : List (Elem ℝ)) (hr : r = .fiber v q :: t) (hl : r.getLast? = some (.fiber u p))
    (hnr : p.raman = false) :
    lastSpanLoss (padRun padding r) = runLoss (padRun padding r) := by
  obtain ⟨p', hl', _, hd⟩ := padRun_dsl padding r u p v q t hr hl hnr
  unfold lastSpanLoss
  rw [hl']
  simp only [Elem.dsl, hd]

/-! ### saturation: the power reduction -/

/-- the reduction is never positive: design only ever lowers a target -/
theorem saturation_only_reduces (c : Cfg ℝ) (prefTotal prevDp prevVoa : ℝ) (a : AmpIn ℝ) (g pt dp : ℝ) :
    powerReduction c prefTotal prevDp prevVoa a g pt dp ≤ 0 := by
  rw [powerReduction_eq]
  exact min_le_left _ _

/-- **power mode, imposed amplifier model: total design power never exceeds p_max, and the offset is reduced only as
needed** — no reduction when it fits, and exactly to `p_max` when it does not -/
theorem saturation_minimal (c : Cfg ℝ) (prefTotal prevDp prevVoa : ℝ) (a : AmpIn ℝ) (g pt dp : ℝ)
    (hv : (a.user.variety == "") = false) (hm : c.powerMode = true) :
    prefTotal + (dp + powerReduction c prefTotal prevDp prevVoa a g pt dp) ≤ a.sel.pMax ∧
    (prefTotal + dp ≤ a.sel.pMax → powerReduction c prefTotal prevDp prevVoa a g pt dp = 0) ∧
    (a.sel.pMax < prefTotal + dp →
      prefTotal + (dp + powerReduction c prefTotal prevDp prevVoa a g pt dp) = a.sel.pMax) := by
  rw [powerReduction_eq, if_neg (Bool.eq_false_iff.1 hv), if_pos hm]
  simpa only [add_assoc] using min_zero_sub_spec a.sel.pMax (prefTotal + dp)

/-- gain mode, imposed model: the operator's gain is reduced only when the output estimated by the code exceeds p_max,
and then exactly to p_max.  The code's estimate `pout` leaves the input VOA out; with `in_voa = 0` it is the real
output, hence the full statement holds there (`saturation_minimal_gain_mode_no_in_voa`); with `in_voa ≠ 0` the
reduction is `in_voa` dB too large (`gain_mode_in_voa_over_reduction_fails_current`). -/
theorem saturation_minimal_gain_mode (c : Cfg ℝ) (prefTotal prevDp prevVoa : ℝ) (a : AmpIn ℝ) (g pt dp : ℝ)
    (hv : (a.user.variety == "") = false) (hm : c.powerMode = false) :
    let pout := prefTotal + prevDp - a.nodeLoss - prevVoa + g
    pout + powerReduction c prefTotal prevDp prevVoa a g pt dp ≤ a.sel.pMax ∧
    (pout ≤ a.sel.pMax → powerReduction c prefTotal prevDp prevVoa a g pt dp = 0) ∧
    (a.sel.pMax < pout → pout + powerReduction c prefTotal prevDp prevVoa a g pt dp = a.sel.pMax) := by
  rw [powerReduction_eq, if_neg (Bool.eq_false_iff.1 hv), hm, if_neg Bool.false_ne_true]
  exact min_zero_sub_spec a.sel.pMax _

/-- gain mode, operator gain `g`, no input VOA: the design output `pref_total + _delta_p` never exceeds p_max and the
operator's gain is kept whenever the output it gives fits -/
theorem saturation_minimal_gain_mode_no_in_voa (c : Cfg ℝ) (pref prefTotal prevDp prevVoa : ℝ) (a : AmpIn ℝ) (g : ℝ)
    (hv : (a.user.variety == "") = false) (hm : c.powerMode = false) (hg : a.user.gain = some g)
    (hiv : a.user.inVoa.getD 0 = 0) :
    prefTotal + (ampStep c pref prefTotal prevDp prevVoa a).dpInt ≤ a.sel.pMax ∧
    (prefTotal + prevDp - prevVoa - a.nodeLoss + g ≤ a.sel.pMax →
      (ampStep c pref prefTotal prevDp prevVoa a).gain = g) := by
  -- gain mode: no VOA optimisation; the operator's gain is the target
  obtain ⟨hgain, hdp⟩ := ampStep_shift_zero c pref prefTotal prevDp prevVoa a (by simp [hm])
  have hg0 := ampStep_gain0_user c pref prefTotal prevDp prevVoa a hm hg
  rw [hgain, hdp, ampStep_retDp, ampStep_reduction, hg0]
  -- without input VOA (`hiv`) the offset that `g` closes the budget for gives the output the code estimates
  have hbud := ampStep_gain0 c pref prefTotal prevDp prevVoa a
  obtain ⟨h1, h2, _⟩ := saturation_minimal_gain_mode c prefTotal prevDp prevVoa a g
    (ampStep c pref prefTotal prevDp prevVoa a).powerTarget (ampStep c pref prefTotal prevDp prevVoa a).dp0 hv hm
  exact ⟨by linarith, fun hfit => by rw [h2 (by linarith), add_zero]⟩

/-- **Current code, open finding gain-mode-in-voa-saturation:** gain mode, operator model with p_max 23, operator gain
30 dB, `in_voa = 1`: input −1 dBm total → the gain is cut to 24 dB and the amplifier delivers 22 dBm, 1 dB (= in_voa)
below what p_max allows -/
theorem gain_mode_in_voa_over_reduction_fails_current :
    ∃ (c : Cfg ℝ) (pref prefTotal prevDp prevVoa : ℝ) (a : AmpIn ℝ),
      c.powerMode = false ∧ (a.user.variety == "") = false ∧ a.user.gain = some 30 ∧
      (ampStep c pref prefTotal prevDp prevVoa a).gain = 24 ∧
      prefTotal + (ampStep c pref prefTotal prevDp prevVoa a).dpInt = 22 ∧ (22:ℝ) < a.sel.pMax := by
  refine ⟨{ powerMode := false, dpLo := -2, dpHi := 3, dpStep := 0.5, lossRef := 20, slope := 0.3, voaMargin := 1,
            voaStep := 0.5, extGain := 2.5 }, 0, 19, -20, 0,
          { user := { variety := "std_low_gain", gain := some 30, deltaP := none, outVoa := none, inVoa := some 1,
                      tilt := none },
            sel := { pMax := 23, gainFlatmax := 16, outVoaAuto := false }, nodeLoss := 0, nextIsRoadm := true,
            nextLoss := 0 }, rfl, by decide, rfl, ?_⟩
  simp only [ampStep, computeTargets, powerReduction, truthy_eq, pmin_eq, pmax_eq,
    show ("std_low_gain" == "") = false by decide, Bool.false_eq_true, if_false, Option.isNone_none, Bool.and_false,
    false_and, Option.getD_some]
  norm_num

/-- auto-selected model (its p_max / gain_flatmax are inputs, selection is C10): after the reduction the target fits
the model's power AND its extended gain range, and nothing is reduced when both already fit -/
theorem saturation_auto_selected (c : Cfg ℝ) (prefTotal prevDp prevVoa : ℝ) (a : AmpIn ℝ) (g pt dp : ℝ)
    (hv : (a.user.variety == "") = true) :
    pt + powerReduction c prefTotal prevDp prevVoa a g pt dp ≤ a.sel.pMax ∧
    g + powerReduction c prefTotal prevDp prevVoa a g pt dp ≤ a.sel.gainFlatmax + c.extGain ∧
    (pt ≤ a.sel.pMax → g ≤ a.sel.gainFlatmax + c.extGain → powerReduction c prefTotal prevDp prevVoa a g pt dp = 0) := by
  rw [powerReduction_eq, if_pos hv]
  have h := min_le_right 0 (min (a.sel.pMax - pt) (a.sel.gainFlatmax + c.extGain - g))
  exact ⟨by linarith [h.trans (min_le_left _ _)], by linarith [h.trans (min_le_right _ _)],
    fun h1 h2 => min_eq_left (le_min (sub_nonneg.2 h1) (sub_nonneg.2 h2))⟩

/-! ### operator values and the output VOA -/

/-- **operator-set gains (gain mode) and offsets (power mode) are kept unless the reduction is non-zero** -/
theorem user_values_kept (c : Cfg ℝ) (pref prefTotal prevDp prevVoa : ℝ) (a : AmpIn ℝ)
    (hr : (ampStep c pref prefTotal prevDp prevVoa a).reduction = 0) :
    (∀ g, c.powerMode = false → a.user.gain = some g → (ampStep c pref prefTotal prevDp prevVoa a).gain = g) ∧
    (∀ d, c.powerMode = true → a.user.deltaP = some d →
      (ampStep c pref prefTotal prevDp prevVoa a).retDp = d ∧
      (ampStep c pref prefTotal prevDp prevVoa a).dpInt - (ampStep c pref prefTotal prevDp prevVoa a).outVoa
        = d - a.user.outVoa.getD 0) := by
  have hs := ampStep_shift c pref prefTotal prevDp prevVoa a
  constructor
  · intro g hm hg
    rw [(ampStep_shift_zero c pref prefTotal prevDp prevVoa a (by simp [hm])).1, hr,
      ampStep_gain0_user c pref prefTotal prevDp prevVoa a hm hg, add_zero]
  · intro d hm hd
    have hret : (ampStep c pref prefTotal prevDp prevVoa a).retDp = d := by
      rw [ampStep_retDp, hr, ampStep_dp0 c pref prefTotal prevDp prevVoa a (.inl hm), hd, add_zero, Option.getD_some]
    refine ⟨hret, ?_⟩
    rw [hs.2, hret, ampStep_retVoa]
    ring

/-- **the operator's output VOA is kept; without VOA optimisation the VOA is 0** -/
theorem voa_rule (c : Cfg ℝ) (pref prefTotal prevDp prevVoa : ℝ) (a : AmpIn ℝ) :
    (∀ x, a.user.outVoa = some x → (ampStep c pref prefTotal prevDp prevVoa a).outVoa = x) ∧
    (a.user.outVoa = none → ¬ (c.powerMode = true ∧ a.sel.outVoaAuto = true) →
      (ampStep c pref prefTotal prevDp prevVoa a).outVoa = 0) :=
  ⟨fun x hx => by
      rw [ampStep_outVoa c pref prefTotal prevDp prevVoa a (fun h => by simp [hx] at h), hx, Option.getD_some],
    fun hn hna => by rw [ampStep_outVoa c pref prefTotal prevDp prevVoa a (fun h => hna h.2), hn, Option.getD_none]⟩

/-- an automatically set VOA is never negative -/
theorem voa_nonneg (c : Cfg ℝ) (pref prefTotal prevDp prevVoa : ℝ) (a : AmpIn ℝ) (hn : a.user.outVoa = none) :
    0 ≤ (ampStep c pref prefTotal prevDp prevVoa a).outVoa := by
  by_cases h : c.powerMode = true ∧ a.sel.outVoaAuto = true
  · rw [ampStep_outVoa_auto c pref prefTotal prevDp prevVoa a ⟨hn, h⟩]
    exact le_max_right _ _
  · rw [ampStep_outVoa c pref prefTotal prevDp prevVoa a (fun h' => h h'.2), hn, Option.getD_none]

/-- **Current code, defect:** the VOA optimisation rounds to the NEAREST step, so with `voa_margin < voa_step/2` the
added gain can push the amplifier above p_max although the target fitted before: p_max − target = 0.6 dB,
step 1, margin 0 → VOA 1 dB, output 0.4 dB above p_max. (Not reachable with the default margin 1 / step 0.5.) -/
theorem voa_auto_can_exceed_pmax_fails_current :
    ∃ (c : Cfg ℝ) (pref prefTotal prevDp prevVoa : ℝ) (a : AmpIn ℝ),
      c.powerMode = true ∧ (a.user.variety == "") = false ∧
      prefTotal + (ampStep c pref prefTotal prevDp prevVoa a).retDp ≤ a.sel.pMax ∧
      a.sel.pMax < prefTotal + (ampStep c pref prefTotal prevDp prevVoa a).dpInt := by
  have r10 : realRint 10 = 10 := by simpa using realRint_intCast 10
  have r06 : realRint ((3:ℝ) / 5) = 1 := by
    simpa using realRint_eq_of_abs_lt (x := 3 / 5) (n := 1) (by norm_num [abs_lt])
  have r1 : realRint 1 = 1 := by simpa using realRint_intCast 1
  have hdec : ("x" == "") = false := by decide
  refine ⟨{ powerMode := true, dpLo := 0, dpHi := 0, dpStep := 0, lossRef := 20, slope := 0.3, voaMargin := 0,
            voaStep := 1, extGain := 0 }, 0, 0, 0, 0,
          { user := { variety := "x", gain := none, deltaP := some 0, outVoa := none, inVoa := none, tilt := none },
            sel := { pMax := 0.6, gainFlatmax := 100, outVoaAuto := true }, nodeLoss := 10, nextIsRoadm := false,
            nextLoss := 0 }, rfl, by decide, ?_⟩
  simp only [ampStep, computeTargets, powerReduction, truthy_eq, pmin_eq, pmax_eq, round2float, round1, hundredth,
    rint_real, hdec, Bool.false_eq_true, if_false, if_true, Option.isNone_none, Bool.and_true, and_self,
    Option.getD_none]
  norm_num [r10, r06, r1]

/-! ### the recorded reference input powers are what the designed line delivers -/

/-- every amplifier of the line closes the budget for the power that reaches it: `p − in_voa + gain = p_ref + _delta_p`
(this is `gain_closes_budget` with `node_loss` = the loss walked since the previous amplifier, cf.
`ref_power_invariant`, `nodeLoss_is_true_loss`) -/
def BudgetOK (pref : ℝ) : ℝ → List (Elem ℝ) → List (AmpOut ℝ) → Prop
  | _, [], _ => True
  | p, .edfa _ _ :: rest, o :: outs =>
    p - o.inVoa + o.gain = pref + o.dpInt ∧ BudgetOK pref (pref + o.dpInt - o.outVoa) rest outs
  | _, .edfa _ _ :: _, [] => True
  | p, .fiber _ q :: rest, outs => BudgetOK pref (p - q.loss) rest outs
  | p, .fused _ l :: rest, outs => BudgetOK pref (p - l) rest outs

/-- **`ref_pch_in_dbm` of fibres and ROADMs** (`set_fiber_input_power`, `set_roadm_input_powers`: amplifier target minus
the losses walked) is the power the reference channel really has there when it is sent through the designed line
without noise — along any line, for any mix of elements. -/
theorem ref_pch_in_consistent (pref : ℝ) :
    ∀ (line : List (Elem ℝ)) (p : ℝ) (outs : List (AmpOut ℝ)), BudgetOK pref p line outs →
      refIns pref p line outs = propIns p line outs := by
  intro line
  induction line with
  | nil => intros; rfl
  | cons e rest ih =>
    intro p outs h
    cases e with
    | fiber u q | fused u l => rw [refIns, propIns, ih _ _ h]
    | edfa u a =>
      cases outs with
      | nil => rfl
      | cons o os => rw [refIns, propIns, ih _ _ h.2, sub_left_inj.2 h.1]

/-! ### the design load: how many channels a band carries -/

/-- `automatic_nch` is the number of whole spacings that fit in the band -/
theorem automaticNch_spec (fmin fmax spacing : Int) (hs : 0 < spacing) :
    automaticNch fmin fmax spacing * spacing ≤ fmax - fmin ∧
    fmax - fmin < (automaticNch fmin fmax spacing + 1) * spacing := by
  exact ⟨Int.ediv_mul_le _ (ne_of_gt hs), Int.lt_ediv_add_one_mul_self _ hs⟩

/-- **the design load of a band is counted with the band's own spacing** unless the reference channel imposes a count:
two bands of the same width and different spacings carry different loads, the same band under two different
reference spacings carries the same load -/
theorem design_load_uses_band_spacing (fmin fmax spacing : Int) :
    designChannels none fmin fmax spacing = automaticNch fmin fmax spacing ∧
    (∀ n, n ≠ 0 → designChannels (some n) fmin fmax spacing = n) ∧
    designChannels none 191300000000000 195100000000000 100000000000 = 38 ∧
    designChannels none 191300000000000 195100000000000 50000000000 = 76 := by
  refine ⟨rfl, ?_, by decide, by decide⟩
  intro n hn
  simp [designChannels, hn]

/-! ### non-vacuity -/

/-- the hypotheses of `ref_power_invariant` are satisfiable on a list that is not empty: two steps whose true loss is the
design's node loss (an auto booster, a user in-line amplifier with delta_p and VOA), a start power `p = pref + pd − pv` -/
example : ∃ (_c : Cfg ℝ) (steps : List (Step ℝ)) (pref p pd pv : ℝ), steps.length = 2 ∧ p = pref + pd - pv ∧
    (∀ s ∈ steps, s.trueLoss = s.inp.nodeLoss) := by
  let c : Cfg ℝ := { powerMode := true, dpLo := -2, dpHi := 3, dpStep := 0.5, lossRef := 20, slope := 0.3,
                     voaMargin := 1, voaStep := 0.5, extGain := 2.5 }
  let a1 : AmpIn ℝ := { user := newEdfa, sel := { pMax := 23, gainFlatmax := 26, outVoaAuto := false },
                        nodeLoss := 0, nextIsRoadm := false, nextLoss := 16 }
  let a2 : AmpIn ℝ := { user := { variety := "std_low_gain", gain := some 15, deltaP := some 1, outVoa := some 1,
                                  inVoa := none, tilt := none },
                        sel := { pMax := 23, gainFlatmax := 16, outVoaAuto := false },
                        nodeLoss := 16, nextIsRoadm := true, nextLoss := 0 }
  exact ⟨c, [⟨0, a1⟩, ⟨16, a2⟩], 0, -20, -20, 0, rfl, by norm_num, by simp [a1, a2]⟩

/-- the range hypothesis of `targetPower_range` and the step hypothesis of `dp_rule_rounding` hold for the shipped
configuration `[-2, 3, 0.5]` -/
example : (-2:ℝ) ≤ 3 ∧ (1:ℝ) / 100 ≤ round1 (1 / 2) := by
  constructor
  · norm_num
  · have : realRint ((1:ℝ) / 2 * 10) = 5 := by
      simpa using realRint_eq_of_abs_lt (x := 1 / 2 * 10) (n := 5) (by norm_num)
    simp only [round1, rint_real, Nat.cast_ofNat, this]
    norm_num

/-- `BudgetOK` (hypothesis of `ref_pch_in_consistent`) on booster – 80 km – preamp -/
example : BudgetOK 0 (-20)
    [.edfa "b" newEdfa,
     .fiber "f" { length := 80000, lossCoef := 0.0002, conIn := some 0, conOut := some 0, attIn := 0, lumps := [],
                  raman := false, ramanGain := none, dsl := none },
     .edfa "p" newEdfa]
    [{ gain := 19, deltaP := some (-1), dpInt := -1, outVoa := 0, inVoa := 0, targetPch := none, retDp := -1, retVoa := 0,
       reduction := 0, dp0 := -1, gain0 := 19, powerTarget := 18 },
     { gain := 17, deltaP := some 0, dpInt := 0, outVoa := 0, inVoa := 0, targetPch := none, retDp := 0, retVoa := 0,
       reduction := 0, dp0 := 0, gain0 := 17, powerTarget := 19 }] := by
  simp only [BudgetOK, FiberP.loss, FiberP.lumped, sumLeft_eq_sum]
  norm_num

end Gnpy.Chain
