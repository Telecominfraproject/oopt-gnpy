import GnpyModel
import GnpyProofs.Lemmas.MapM
import GnpyProofs.Lemmas.Route
import GnpyProofs.Lemmas.Disjoint
import GnpyProofs.Lemmas.Selection
import GnpyProofs.Lemmas.Sync
/- Property theorems for C12 — requests declared disjoint never share a link in either direction.
   Model: GnpyModel/Route.lean (`LinkDisjoint`, `isdisjointPy`, `shortOf`, `revChain`, `disjointOracle`, steps 2-5 of
   `compute_path_dsjctn` over abstract candidates) and, for the synchronisation vectors handed to that computation,
   GnpyModel/Sync.lean. -/
namespace Gnpy.Route

/-! ### OMS level: links, reversal, disjointness -/

/-- the checker run on the returned paths decides the disjointness predicate of the property -/
theorem linkDisjoint_checker (isRoadm : V → Bool) (p q : List V) :
    linkDisjointB isRoadm p q = true ↔ LinkDisjoint isRoadm p q := by
  simp only [linkDisjointB, List.contains_eq_mem, List.all_eq_true, Bool.and_eq_true, Bool.not_eq_eq_eq_not,
    Bool.not_true, decide_eq_false_iff_not, LinkDisjoint]

/-- a whole group: the Boolean is `true` exactly when the paths are pairwise link-disjoint -/
theorem allDisjoint_checker (isRoadm : V → Bool) (ps : List (List V)) :
    allDisjointB isRoadm ps = true ↔ ps.Pairwise (LinkDisjoint isRoadm) := by
  induction ps with
  | nil => simp [allDisjointB]
  | cons p rest ih =>
    simp only [allDisjointB, Bool.and_eq_true, List.all_eq_true, linkDisjoint_checker, ih, List.pairwise_cons]

/-- sharing a link "in either direction" is a symmetric relation (so testing each new path against the paths already
chosen, as step 2 does, is enough) -/
theorem linkDisjoint_symm (isRoadm : V → Bool) (p q : List V) (h : LinkDisjoint isRoadm p q) :
    LinkDisjoint isRoadm q p :=
  fun l hl => ⟨fun hlp => (h l hlp).1 hl, fun hlp => (h (l.2, l.1) hlp).2 hl⟩

/-- **`isdisjoint` is the right test (OMS level).**  For two paths crossing the OMS chains `c1`, `c2`, the sum the code
computes in step 2, `isdisjoint(short(p1), short(p2)) + isdisjoint(short(reversed p1), short(p2))`, is 0 exactly when
no OMS of `p1` and no reversed OMS of `p1` is crossed by `p2`. -/
theorem linkDisjoint_iff (rev : Oms → Oms) (c1 c2 : List Oms) (h1 : Adjacent c1) (h2 : Adjacent c2)
    (hr : RevOk rev c1) (hs : Separated c1 c2) (hs' : Separated (revChain rev c1) c2) :
    isdisjointPy (shortOf c1) (shortOf c2) + isdisjointPy (shortOf (revChain rev c1)) (shortOf c2) = 0 ↔
      ∀ o ∈ c1, o ∉ c2 ∧ rev o ∉ c2 := by
  rw [Nat.add_eq_zero_iff, isdisjoint_chain_iff h1 h2 hs, isdisjoint_chain_iff (reverse_adjacent rev c1 h1 hr) h2 hs']
  simp only [mem_revChain, forall_exists_index, and_imp, forall_apply_eq_imp_iff₂, imp_and, forall_and]

/-- the ROADM-to-ROADM links of a chain -/
def linksC (c : List Oms) : List (V × V) := c.map (fun o => (o.src, o.dst))

/-- in a parallel-free network (one OMS per ordered ROADM pair, `rev` the OMS of the opposite pair) "no common OMS and
no common reversed OMS" is "no common ROADM-to-ROADM link, a link and its opposite identified" -/
theorem oms_disjoint_iff_links (rev : Oms → Oms) (c1 c2 : List Oms) (hr : RevOk rev c1)
    (hpar : ∀ o ∈ c1, ∀ o' ∈ c2, (o.src = o'.src → o.dst = o'.dst → o = o') ∧
                                  (o.dst = o'.src → o.src = o'.dst → rev o = o')) :
    (∀ o ∈ c1, o ∉ c2 ∧ rev o ∉ c2) ↔ ∀ l ∈ linksC c1, l ∉ linksC c2 ∧ (l.2, l.1) ∉ linksC c2 := by
  simp only [linksC, List.forall_mem_map]
  refine forall₂_congr fun o ho => and_congr (not_congr ?_) (not_congr ?_) <;> rw [List.mem_map]
  · exact ⟨fun h => ⟨o, h, rfl⟩, fun ⟨o', ho', e⟩ =>
      (hpar o ho o' ho').1 (congrArg Prod.fst e).symm (congrArg Prod.snd e).symm ▸ ho'⟩
  · exact ⟨fun h => ⟨rev o, h, by rw [(hr o ho).1, (hr o ho).2]⟩, fun ⟨o', ho', e⟩ =>
      (hpar o ho o' ho').2 (congrArg Prod.fst e).symm (congrArg Prod.snd e).symm ▸ ho'⟩

/-- the ROADMs met along an adjacent chain pair up into exactly its links -/
theorem zip_sites : ∀ c : List Oms, Adjacent c → (sitesOf c).zip (sitesOf c).tail = linksC c
  | [], _ | [_], _ => by simp [sitesOf, linksC]
  | o :: o' :: rest, h => by
    have hadj : o.dst = o'.src := (List.isChain_cons_cons.1 h).1
    have ih := zip_sites (o' :: rest) (List.isChain_cons_cons.1 h).2
    simp only [sitesOf, List.map_cons, List.tail_cons, List.zip_cons_cons, linksC] at ih ⊢
    rw [hadj]
    simp [ih]

/-- a path whose ROADMs are the sites of the chain crosses exactly the links of the chain -/
theorem linksOf_of_sites (isRoadm : V → Bool) (p : List V) (c : List Oms) (hc : Adjacent c)
    (hp : p.filter isRoadm = sitesOf c) : linksOf isRoadm p = linksC c := by
  unfold linksOf
  simp only [hp]
  exact zip_sites c hc

/-- **C12, the implementation's test means the property's relation.**  `p1`, `p2` element paths crossing the adjacent
OMS chains `c1`, `c2` of a parallel-free network: the step-2 sum is 0 exactly when the paths have no ROADM-to-ROADM link
in common, a link and its opposite direction counted as the same. -/
theorem isdisjoint_test_iff_linkDisjoint (isRoadm : V → Bool) (rev : Oms → Oms) (p1 p2 : List V) (c1 c2 : List Oms)
    (h1 : Adjacent c1) (h2 : Adjacent c2) (hp1 : p1.filter isRoadm = sitesOf c1) (hp2 : p2.filter isRoadm = sitesOf c2)
    (hr : RevOk rev c1) (hs : Separated c1 c2) (hs' : Separated (revChain rev c1) c2)
    (hpar : ∀ o ∈ c1, ∀ o' ∈ c2, (o.src = o'.src → o.dst = o'.dst → o = o') ∧
                                  (o.dst = o'.src → o.src = o'.dst → rev o = o')) :
    isdisjointPy (shortOf c1) (shortOf c2) + isdisjointPy (shortOf (revChain rev c1)) (shortOf c2) = 0 ↔
      LinkDisjoint isRoadm p1 p2 := by
  rw [linkDisjoint_iff rev c1 c2 h1 h2 hr hs hs', oms_disjoint_iff_links rev c1 c2 hr hpar]
  unfold LinkDisjoint
  rw [linksOf_of_sites isRoadm p1 c1 h1 hp1, linksOf_of_sites isRoadm p2 c2 h2 hp2]

/-! ### the disjointness oracle for one pair of requests -/

/-- **the pair oracle means what the property says**: `disjointOracle = true` exactly when there are two routes (of at
most 80 hops, the documented cut-off), one per request, each honouring its include list unless that list is all-LOOSE,
with no link in common in either direction -/
theorem disjointOracle_iff (g : Graph) (hg : g.WF) (isRoadm : V → Bool) (r1 r2 : Req) :
    disjointOracle g isRoadm r1 r2 = true ↔
      ∃ p q, IsRoute g r1.s r1.t [] p ∧ p.length ≤ 81 ∧ (r1.strict = true → r1.inc.Sublist p) ∧
             IsRoute g r2.s r2.t [] q ∧ q.length ≤ 81 ∧ (r2.strict = true → r2.inc.Sublist q) ∧
             LinkDisjoint isRoadm p q := by
  simp only [disjointOracle, List.any_eq_true, Bool.and_eq_true, mem_candPaths g hg, acceptable_iff,
    linkDisjoint_checker, and_assoc, exists_and_left]

/-! ### candidate selection of `compute_path_dsjctn`, steps 2-5 -/

/-- **step 2 only builds disjoint combinations (pair)**: every combination produced for a vector of two requests is a
pair of candidates, one per request, that passed the implementation's test -/
theorem step2_combinations_disjoint (inp : SelInput) (r0 r1 : Nat) (sol : List Cand) (h : sol ∈ step2 inp [r0, r1]) :
    ∃ i j, sol = [(r0, i), (r1, j)] ∧ i < inp.ncand r0 ∧ j < inp.ncand r1 ∧ inp.dis (r1, j) (r0, i) = true := by
  obtain ⟨i, hi, j, hj, hs, hd⟩ := mem_step2_pair.1 h
  exact ⟨i, j, hs, hi, hj, hd⟩

/-- **C12, pair completeness (selection level).**  For one synchronisation vector of two requests, steps 2-5 end in a
`DisjunctionError` exactly when no pair of candidates passes the disjointness test with both candidates acceptable
(include list honoured, or list all-LOOSE).  Together with `isdisjoint_test_iff_linkDisjoint` (the test means
link-disjointness) and `disjointOracle_iff` this is: for a single pair a disjoint solution is found whenever one
exists among the candidates of at most 80 hops. -/
theorem pair_complete (inp : SelInput) (d r0 r1 : Nat) (reqs : List Nat) (hne : r0 ≠ r1)
    (hf : PairFacts inp r0 r1) :
    selectDisjoint inp [(d, [r0, r1])] reqs = none ↔
      ¬ ∃ i, i < inp.ncand r0 ∧ ∃ j, j < inp.ncand r1 ∧ inp.dis (r1, j) (r0, i) = true ∧
          accCand inp (r0, i) = true ∧ accCand inp (r1, j) = true := by
  rw [selectDisjoint_single_none_iff d fun r _ hr => noOrphan_pair hf r hr]
  constructor
  · rintro h ⟨i, hi, j, hj, hd, ha0, ha1⟩
    have := h _ (mem_step2_pair.2 ⟨i, hi, j, hj, rfl, hd⟩)
    simp [ha0, ha1] at this
  · intro h sol hsol
    obtain ⟨i, hi, j, hj, rfl, hd⟩ := mem_step2_pair.1 hsol
    by_contra hcon
    simp only [List.all_cons, List.all_nil, Bool.and_true, Bool.not_eq_false, Bool.and_eq_true] at hcon
    exact h ⟨i, hi, j, hj, hd, hcon.1, hcon.2⟩

/-- **step 2 only builds disjoint combinations (any vector size)**: every combination holds one candidate per request
of the vector, in order, and every candidate passed the implementation's test against all candidates before it -/
theorem step2_combinations_good (inp : SelInput) (dl : List Nat) (sol : List Cand) (h : sol ∈ step2 inp dl) :
    sol.map Prod.fst = dl ∧ sol.Pairwise (fun a b => inp.dis b a = true) :=
  have h := (mem_step2_iff.1 h).2
  ⟨h.1, h.2.2⟩

/-- **C12, soundness of the selection (steps 2-5), any set of synchronisation vectors** — pairs, larger vectors,
overlapping vectors.  Whatever combination step 5 returns: no request receives two paths, and inside every vector
any two requests received paths that passed the disjointness test (by `isdisjoint_test_iff_linkDisjoint`: paths with
no common link in either direction).  Python's remove-while-iterating in step 3, the alternates of step 4 and
`remove_candidate` are all part of the model.  Otherwise the result is `none`: the computation stops with a
DisjunctionError instead of returning overlapping paths.  (`selectDisjoint_sound` says it of whole combinations.) -/
theorem selection_sound (inp : SelInput) (groups : List (Nat × List Nat)) (reqs : List Nat) (chosen : List Cand)
    (hids : (groups.map (·.1)).Nodup) (hdl : ∀ g ∈ groups, g.2.Nodup)
    (hreqs : ∀ g ∈ groups, ∀ r ∈ g.2, r ∈ reqs) (hnd : reqs.Nodup)
    (h : selectDisjoint inp groups reqs = some chosen) :
    (∀ c ∈ chosen, ∀ c' ∈ chosen, c.1 = c'.1 → c = c') ∧
    ∀ g ∈ groups, ∀ r ∈ g.2, ∀ r' ∈ g.2, r ≠ r' →
      ∃ c ∈ chosen, ∃ c' ∈ chosen, c.1 = r ∧ c'.1 = r' ∧ (inp.dis c c' = true ∨ inp.dis c' c = true) := by
  obtain ⟨huniq, hall⟩ := selectDisjoint_sound hids hdl hreqs hnd h
  refine ⟨fun c hc c' hc' e => List.inj_on_of_nodup_map huniq hc hc' e, ?_⟩
  intro g hg r hr r' hr' hne
  obtain ⟨sol, ⟨hmap, _, hpw⟩, hin⟩ := hall g hg
  obtain ⟨c, hc, rfl⟩ := List.mem_map.1 (hmap ▸ hr)
  obtain ⟨c', hc', rfl⟩ := List.mem_map.1 (hmap ▸ hr')
  have hsym : sol.Pairwise (fun a b => inp.dis a b = true ∨ inp.dis b a = true) := hpw.imp .inr
  have : Std.Symm (fun a b : Cand => inp.dis a b = true ∨ inp.dis b a = true) := ⟨fun _ _ => Or.symm⟩
  exact ⟨c, hin hc, c', hin hc', rfl, rfl, hsym.forall hc hc' fun e => hne (e ▸ rfl)⟩

/-- larger or overlapping vectors: completeness is NOT claimed (`…_partial`).  Full statement that is false in general:
    `selectDisjoint inp groups reqs = none ↔ ¬ ∃ assignment of one acceptable candidate per request, pairwise passing
    the test inside every vector`.  Counter-example shape: vectors {A,B} and {A,C}; the first combination of {A,B}
    fixes a path of A for which {A,C} has no combination, while another path of A serves both (step 5 never
    backtracks).  What holds whatever the size of the vector is the error direction for a single vector: -/
theorem group_complete_partial (inp : SelInput) (d : Nat) (dl reqs : List Nat)
    (hno : ∀ r ∈ reqs, r ∈ dl → ∀ c ∈ candsOf inp r, NoOrphan inp.vid c (step2 inp dl))
    (h : ∀ sol ∈ step2 inp dl, sol.all (accCand inp) = false) :
    selectDisjoint inp [(d, dl)] reqs = none :=
  (selectDisjoint_single_none_iff d hno).2 h

/-- **completeness for ONE vector of any size (three requests, four, …) under an explicit hypothesis.**  If no candidate
is orphaned in step 3 (`NoOrphan`: whenever a combination holds a path equal by value to candidate `c`, some combination
uses `c` for its own request — true for pairs by `noOrphan_pair`, true whenever the requests of the vector have pairwise
different end points, since then no two candidates of different requests are equal), the selection ends in a
DisjunctionError exactly when there is NO assignment of one valid, acceptable candidate per request in which every
candidate passes the disjointness test against all candidates before it. -/
theorem single_vector_complete (inp : SelInput) (d : Nat) (dl reqs : List Nat) (hne : dl ≠ [])
    (hno : ∀ r ∈ reqs, r ∈ dl → ∀ c ∈ candsOf inp r, NoOrphan inp.vid c (step2 inp dl)) :
    selectDisjoint inp [(d, dl)] reqs = none ↔
      ¬ ∃ sol : List Cand, sol.map Prod.fst = dl ∧ (∀ c ∈ sol, c.2 < inp.ncand c.1) ∧
          sol.Pairwise (fun a b => inp.dis b a = true) ∧ sol.all (accCand inp) = true := by
  rw [selectDisjoint_single_none_iff d hno]
  simp only [mem_step2_iff, hne, ne_eq, not_false_eq_true, true_and, Combo, not_exists, not_and, Bool.not_eq_true,
    and_imp]

/-- the hypothesis of `single_vector_complete` holds for every vector whose requests have pairwise different end points
(no two candidates of different requests are the same path) -/
theorem single_vector_complete_distinct (inp : SelInput) (d : Nat) (dl reqs : List Nat) (hne : dl ≠ [])
    (hinj : ∀ c c', inp.vid c = inp.vid c' → c = c') :
    selectDisjoint inp [(d, dl)] reqs = none ↔
      ¬ ∃ sol : List Cand, sol.map Prod.fst = dl ∧ (∀ c ∈ sol, c.2 < inp.ncand c.1) ∧
          sol.Pairwise (fun a b => inp.dis b a = true) ∧ sol.all (accCand inp) = true :=
  single_vector_complete inp d dl reqs hne fun _ _ _ _ _ => noOrphan_of_injective hinj

/-- candidates of three requests A=0, B=1, C=2 (two each) and the pairs that pass the disjointness test -/
def okPairs : List (Cand × Cand) :=
  [((0, 0), (1, 0)), ((0, 1), (1, 1)), ((1, 0), (2, 0)), ((1, 1), (2, 1)), ((0, 0), (2, 1)), ((0, 1), (2, 1)),
   ((0, 1), (2, 0))]

def demoInc : SelInput where
  ncand := fun _ => 2
  dis := fun c c' => okPairs.contains (c, c') || okPairs.contains (c', c)
  okInc := fun _ => true
  hasStrict := fun _ => false
  hasInc := fun _ => false
  vid := fun c => 2 * c.1 + c.2

/-- **why completeness is only claimed for a single vector** (`…_fails_current` for the general statement): with the
overlapping vectors {A,B}, {B,C}, {A,C} the selection ends in a DisjunctionError although the assignment
A↦1, B↦1, C↦1 is pairwise disjoint — step 5 commits to the first combination (A↦0, B↦0), then C↦0, and {A,C} has no
combination left.  (Stated as ONE vector {A,B,C} the same instance is solved.) -/
theorem overlapping_complete_fails_current :
    selectDisjoint demoInc [(0, [0, 1]), (1, [1, 2]), (2, [0, 2])] [0, 1, 2] = none ∧
    (demoInc.dis (1, 1) (0, 1) = true ∧ demoInc.dis (2, 1) (1, 1) = true ∧ demoInc.dis (2, 1) (0, 1) = true) ∧
    selectDisjoint demoInc [(0, [0, 1, 2])] [0, 1, 2] = some [(0, 1), (1, 1), (2, 1)] := by decide

/-! ### non-vacuity -/

/-- three ROADMs in a line, A = 0, B = 1, C = 2; one OMS per link and direction, first elements 10-13 -/
def oAB : Oms := ⟨0, 10, 1⟩
def oBA : Oms := ⟨1, 11, 0⟩
def oBC : Oms := ⟨1, 12, 2⟩
def oCB : Oms := ⟨2, 13, 1⟩
def demoRev (o : Oms) : Oms := if o = oAB then oBA else if o = oBA then oAB else if o = oBC then oCB else oBC

example : Adjacent [oAB, oBC] ∧ RevOk demoRev [oAB, oBC] ∧ Separated [oAB, oBC] [oCB, oBA] := by
  refine ⟨?_, ?_, ?_⟩
  · unfold Adjacent
    decide
  · unfold RevOk
    decide
  · unfold Separated
    decide
example : isdisjointPy (shortOf [oAB, oBC]) (shortOf [oCB, oBA]) = 0 := by decide
example : isdisjointPy (shortOf (revChain demoRev [oAB, oBC])) (shortOf [oCB, oBA]) = 1 := by decide
example : sitesOf [oAB, oBC] = [0, 1, 2] ∧ linksC [oAB, oBC] = [(0, 1), (1, 2)] := by decide
/-- two requests with 2 candidates each, only (0,1)/(1,0) disjoint -/
def demoSel : SelInput where
  ncand := fun _ => 2
  dis := fun c c' => (c == (1, 0) && c' == (0, 1)) || (c == (0, 1) && c' == (1, 0))
  okInc := fun _ => true
  hasStrict := fun _ => false
  hasInc := fun _ => false
  vid := fun c => 2 * c.1 + c.2

example : selectDisjoint demoSel [(7, [0, 1])] [0, 1] = some [(0, 1), (1, 0)] := by decide
example : PairFacts demoSel 0 1 := by
  refine ⟨?_, ?_, ?_, ?_, ?_⟩
  · intro r i j h
    simp only [demoSel] at h
    omega
  · intro i j h
    simp only [demoSel] at h ⊢
    simp at h
    omega
  · -- equal paths of the two requests have `i = 2 + j'`, `i' = 2 + j`: neither side is the pair (1,0), (0,1)
    intro i j i' j' h1 h2
    simp only [demoSel] at h1 h2 ⊢
    have hi : i ≠ 1 := by omega
    have hi' : i' ≠ 1 := by omega
    simp [beq_eq_decide, hi, hi']
  · intro i j hi hj h
    simp only [demoSel] at h hi hj
    omega
  · intro i j hi hj h
    simp only [demoSel] at h hi hj
    omega
example : selectDisjoint { demoSel with dis := fun _ _ => false } [(7, [0, 1])] [0, 1] = none := by decide
/-- overlapping vectors {0,1} and {0,2}: three requests with two candidates each, candidates with different index are
disjoint; a triple {0,1,2} is impossible -/
def demoSel3 : SelInput where
  ncand := fun _ => 2
  dis := fun c c' => c.2 != c'.2
  okInc := fun _ => true
  hasStrict := fun _ => false
  hasInc := fun _ => false
  vid := fun c => 2 * c.1 + c.2

example : selectDisjoint demoSel3 [(0, [0, 1]), (1, [0, 2])] [0, 1, 2] = some [(0, 1), (1, 0), (2, 0)] := by decide
example : selectDisjoint demoSel3 [(0, [0, 1, 2])] [0, 1, 2] = none := by decide

end Gnpy.Route

/-! ### from the vectors the user declared to the vectors the path computation sees -/
namespace Gnpy.Sync
open Gnpy.Response

/-- **`deduplicate_disjunctions`, what can be relied on**: the result is a sub-list of the declared vectors (nothing
invented, nothing reordered, ids and request lists untouched) and nothing is lost — every declared vector still has a
vector over the same set of requests in the result.  Holds with the nested remove-while-iterating of the code. -/
theorem dedup_spec (l : List Disj) :
    (deduplicateDisjunctions l).Sublist l ∧
    ∀ d ∈ l, ∃ d' ∈ deduplicateDisjunctions l, sameSet d.reqs d'.reqs = true :=
  (dedupOuter_spec l l.length 0 l fun d hd => ⟨d, hd, sameSet_refl _⟩).symm

/-- the third clause one would like, "no two vectors over the same set remain", is FALSE for the current code: with
three copies of {a,b} and three of {a,c} interleaved as below, the iterators skip entries and two vectors over {a,c}
survive.  Harmless for C12 (a repeated vector repeats a demand), therefore not part of `dedup_spec`. -/
theorem dedup_no_duplicates_fails_current :
    (deduplicateDisjunctions [⟨"d0", ["a", "b"]⟩, ⟨"d1", ["a", "c"]⟩, ⟨"d2", ["a", "b"]⟩, ⟨"d3", ["a", "b"]⟩,
                              ⟨"d4", ["a", "c"]⟩, ⟨"d5", ["a", "c"]⟩]).map (fun d => (d.id, d.reqs)) =
      [("d1", ["a", "c"]), ("d3", ["a", "b"]), ("d5", ["a", "c"])] := by decide

variable {κ α : Type} [DecidableEq κ] [Add α]

/-- **`requests_aggregation` keeps every declared demand** (code as repaired by F14).  `ren` = the name each request
id carries after the aggregation (the id of the request that absorbed it; computed by `requestsAggregationT`, which is
the C19 model `requestsAggregationD` plus this book-keeping).  The vectors handed to the path computation are the
declared vectors, same number, same order, same vector ids, and whenever a declared vector lists `x` and `y`, the
corresponding output vector lists `ren x` and `ren y`. -/
theorem aggregation_preserves_disjointness_demands (rs : List (AReq κ α)) (ds : List Disj) :
    (requestsAggregationT rs ds).1 = requestsAggregationD rs ds ∧
    List.Forall₂ (fun d d' => d'.id = d.id ∧ ∀ x ∈ d.reqs, (requestsAggregationT rs ds).2 x ∈ d'.reqs)
      ds (requestsAggregationD rs ds).2 :=
  have e : (requestsAggregationT rs ds).1 = requestsAggregationD rs ds :=
    (List.foldl_hom Prod.fst fun st i => (aggStepT_fst st i).symm).symm
  -- `Renamed st.2 ds st.1.2` holds along the fold of the traced steps; `e` carries it over to the C19 model
  ⟨e, e ▸ List.foldlRecOn _ aggStepT (renamed_refl ds) fun st h i _ => aggStepT_renamed st i h⟩

/-- `aggregation_preserves_disjointness_demands` read for one pair of requests of a declared vector -/
theorem aggregation_pair_demand (rs : List (AReq κ α)) (ds : List Disj) (d : Disj) (hd : d ∈ ds) (x y : String)
    (hx : x ∈ d.reqs) (hy : y ∈ d.reqs) :
    ∃ d' ∈ (requestsAggregationD rs ds).2, d'.id = d.id ∧
      (requestsAggregationT rs ds).2 x ∈ d'.reqs ∧ (requestsAggregationT rs ds).2 y ∈ d'.reqs := by
  obtain ⟨d', hd', hid, hrel⟩ := (aggregation_preserves_disjointness_demands rs ds).2.exists_right hd
  exact ⟨d', hd', hid, hrel x hx, hrel y hy⟩

/-- **two requests of one vector are never merged**: `compare_reqs` demands equal partner sets (`same_disj`), and two
different requests listed in a common vector (vectors without repeated ids) never have equal partner sets — each is
a partner of the other but not of itself.  So `ren x = ren y` cannot come from merging `x` with `y`. -/
theorem partners_never_merged (ds : List Disj) (hnd : ∀ d ∈ ds, d.reqs.Nodup) (d : Disj) (hd : d ∈ ds)
    (x y : String) (hx : x ∈ d.reqs) (hy : y ∈ d.reqs) (hxy : x ≠ y) : sameDisj ds x y = false := by
  rw [sameDisj_eq_sameSet hd hx hd hy]
  -- `y` is a partner of `x`, but not of itself
  refine Bool.eq_false_iff.2 fun hs => ?_
  exact not_mem_othersOf_self y _ (fun d' hd' => hnd d' (List.mem_of_mem_filter hd'))
    ((sameSet_iff.1 hs y).1 ((mem_othersOf hxy.symm _).2
      ⟨d, List.mem_filter.2 ⟨hd, List.contains_iff_mem.2 hx⟩, hy⟩))

/-- every merge the aggregation performs joins `req` into a request `t` with `same_disj` true at that moment — hence,
by `partners_never_merged`, two requests that share no vector -/
theorem merge_requires_same_disj (ds : List Disj) (req : AReq κ α) (loc l' : List (AReq κ α)) (oldId newId : String)
    (h : absorbIntoD ds req loc = some (l', oldId, newId)) (hnd : ∀ d ∈ ds, d.reqs.Nodup) :
    ∃ t ∈ loc, oldId = t.idStr ∧ newId = (absorb t req).idStr ∧ absorb t req ∈ l' ∧
      ∀ d ∈ ds, ¬ (req.idStr ∈ d.reqs ∧ t.idStr ∈ d.reqs) := by
  obtain ⟨t, ht, hold, hnew, hmem, hne, hsame⟩ := absorbIntoD_eq_some h
  refine ⟨t, ht, hold, hnew, hmem, ?_⟩
  rintro d hd ⟨hx, hy⟩
  exact Bool.false_ne_true ((partners_never_merged ds hnd d hd _ _ hx hy hne).symm.trans hsame)

/-! ### non-vacuity -/

/-- request `i` at position `p`, its compared fields summed up in `k` -/
def demoReq (p : Nat) (i k : String) : AReq String Nat :=
  { pos := p, parts := [i], key := k, hasMode := true, bw := 1, n := [], m := [] }
/-- the instance of F14 kept in corpus/C12/f14b_aggregation_drops_vector.json (vectors: `demoDs`).  Requests 1 and 3
are twins (same compared fields, partners {2,4} each); 1 is merged into 3; all three declared vectors survive with '1'
and '3' renamed to '3 | 1', so {4,2} is still demanded -/
def demoRs : List (AReq String Nat) := [demoReq 0 "1" "A", demoReq 1 "2" "B", demoReq 2 "3" "A", demoReq 3 "4" "C"]
def demoDs : List Disj := [⟨"s0", ["3", "4", "2"]⟩, ⟨"s1", ["1", "2"]⟩, ⟨"s2", ["1", "4"]⟩]

example : (requestsAggregationD demoRs demoDs).2.map (fun d => (d.id, d.reqs)) =
    [("s0", ["4", "2", "3 | 1"]), ("s1", ["2", "3 | 1"]), ("s2", ["4", "3 | 1"])] := by decide
example : ["1", "2", "3", "4"].map (requestsAggregationT demoRs demoDs).2 = ["3 | 1", "2", "3 | 1", "4"] := by decide
example : ∀ d ∈ demoDs, d.reqs.Nodup := by decide

end Gnpy.Sync
