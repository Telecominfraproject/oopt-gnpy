import GnpyModel
import GnpyProofs.Lemmas.Bands
/- Property theorems for C07 — the launched channel set survives the path intact; channel order is irrelevant.
   Model: GnpyModel/Bands.lean.  Vocabulary (`Before`/`Disj` on channels, `SortedF`, `Valid s := mkSpectrum s = ok s`,
   `Pos s` = all slot widths > 0, `inAny bands c`, `BandDisj`, `parts`), what the model's definitions return and the
   basic facts: Lemmas/Bands.lean.
   Discrete model (Int/Nat/List): what is proved is what the driver executes. -/
namespace Gnpy.Bands

/-! ### construction: sort, overlap check, baud ≤ slot check -/

/-- the only error the constructor raises is a spectrum error -/
theorem mk_error_kind (l : List Ch) (e : Err) (h : mkSpectrum l = .error e) : e = .spectrum := by
  simp only [mkSpectrum] at h
  -- each of the two guards raises a spectrum error
  split_ifs at h
  · exact (Except.error.inj h).symm
  · exact (Except.error.inj h).symm

/-- **an accepted spectrum is the frequency-sorted permutation of what was supplied**: every channel exactly
once, each with its own slot width, baud rate and payload (label, transmitter data, powers) -/
theorem mk_sorted_perm (l s : List Ch) (h : mkSpectrum l = .ok s) : s.Perm l ∧ SortedF s := by
  obtain ⟨rfl, _, _⟩ := (mk_ok_iff l s).1 h
  exact ⟨sortF_perm l, sortF_sorted l⟩

theorem valid_nodup (s : List Ch) (hv : Valid s) (hp : Pos s) : s.Nodup :=
  nodup_of_strict (valid_strict hv hp)

/-- an accepted spectrum is strictly sorted when the slot widths are positive: no frequency twice -/
theorem mk_strictly_sorted (l s : List Ch) (h : mkSpectrum l = .ok s) (hp : Pos l) :
    s.Pairwise (fun a b => a.f < b.f) :=
  valid_strict (valid_of_mk h) (fun c hc => hp c ((mk_sorted_perm l s h).1.subset hc))

/-- **accepted iff no two channels overlap and no baud rate exceeds its slot** -/
theorem mk_accepts_iff (l : List Ch) (hs : ∀ c ∈ l, 0 ≤ c.slot) :
    (∃ s, mkSpectrum l = .ok s) ↔ l.Pairwise Disj ∧ ∀ c ∈ l, c.baud ≤ c.slot := by
  rw [mk_eq l hs]
  split_ifs with h
  · exact iff_of_true ⟨_, rfl⟩ h
  · exact iff_of_false (fun ⟨_, h⟩ => nomatch h) h

/-- **rejected with a spectrum error iff two channels overlap or a baud rate is wider than its slot** -/
theorem mk_rejects_iff (l : List Ch) (hs : ∀ c ∈ l, 0 ≤ c.slot) :
    mkSpectrum l = .error .spectrum ↔ ¬ (l.Pairwise Disj ∧ ∀ c ∈ l, c.baud ≤ c.slot) := by
  rw [mk_eq l hs]
  split_ifs with h
  · exact iff_of_false nofun (not_not.2 h)
  · exact iff_of_true rfl h

theorem mk_rejects_overlap (l : List Ch) (hs : ∀ c ∈ l, 0 ≤ c.slot) (h : ¬ l.Pairwise Disj) :
    mkSpectrum l = .error .spectrum :=
  (mk_rejects_iff l hs).2 (fun hh => h hh.1)

theorem mk_rejects_baud (l : List Ch) (hs : ∀ c ∈ l, 0 ≤ c.slot) (c : Ch) (hc : c ∈ l) (h : c.slot < c.baud) :
    mkSpectrum l = .error .spectrum :=
  (mk_rejects_iff l hs).2 (fun hh => by have := hh.2 c hc; omega)

/-- **supplying the same channels in a different order gives the identical result** – the same sorted spectrum
(hence identical per-channel records downstream) or the same rejection -/
theorem mk_order_irrelevant (l₁ l₂ : List Ch) (hp : l₁.Perm l₂) (hs : Pos l₁) : mkSpectrum l₁ = mkSpectrum l₂ := by
  have hs1 : ∀ c ∈ l₁, 0 ≤ c.slot := fun c hc => (hs c hc).le
  have hacc : (l₁.Pairwise Disj ∧ ∀ c ∈ l₁, c.baud ≤ c.slot) ↔ (l₂.Pairwise Disj ∧ ∀ c ∈ l₂, c.baud ≤ c.slot) := by
    rw [hp.pairwise_iff disj_symm]
    simp only [hp.mem_iff]
  rw [mk_eq l₁ hs1, mk_eq l₂ fun c hc => hs1 c (hp.mem_iff.2 hc)]
  classical
  refine if_ctx_congr hacc (fun hok => ?_) fun _ => rfl
  -- two frequency-sorted arrangements of channels with pairwise different frequencies coincide
  refine congrArg _ (List.Perm.eq_of_pairwise (fun a b ha hb hab hba => ?_) (sortF_sorted l₁) (sortF_sorted l₂)
    ((sortF_perm l₁).trans (hp.trans (sortF_perm l₂).symm)))
  have ha1 := (sortF_perm l₁).subset ha
  have hb1 := hp.symm.subset ((sortF_perm l₂).subset hb)
  by_contra hne
  exact disj_pos_ne (hs a ha1) (hs b hb1) ((hacc.2 hok).1.forall ha1 hb1 hne) (le_antisymm hab hba)

/-- the whole propagation does not depend on the order in which the channels are supplied either -/
theorem propagate_order_irrelevant (path : List Elem) (lo hi : Option Int) (d : Int) (l₁ l₂ : List Ch)
    (hp : l₁.Perm l₂) (hs : Pos l₁) : propagate path lo hi d l₁ = propagate path lo hi d l₂ := by
  simp only [propagate, mk_order_irrelevant l₁ l₂ hp hs]

/-- a rejected spectrum is rejected by the propagation with the same error -/
theorem propagate_rejects (path : List Elem) (lo hi : Option Int) (d : Int) (l : List Ch) (e : Err)
    (h : mkSpectrum l = .error e) : propagate path lo hi d l = .error .spectrum := by
  cases mk_error_kind l e h
  simp only [propagate, h]

theorem mk_of_perm_valid {l s : List Ch} (hv : Valid s) (hp : Pos s) (hperm : l.Perm s) : mkSpectrum l = .ok s := by
  rw [mk_order_irrelevant l s hperm (fun c hc => hp c (hperm.subset hc))]
  exact hv

/-! ### band selection: demux, mux, `filter_si` -/

/-- split over disjoint bands, merge: the channels that lie in one of the bands, each once, in frequency order -/
theorem mux_demux (bs : List Band) (sp : List Ch) (hv : Valid sp) (hp : Pos sp) (hd : bs.Pairwise BandDisj)
    (hne : parts bs sp ≠ []) : mux (parts bs sp) = .ok (sp.filter (inAny bs)) := by
  rw [mux_eq_foldr (parts_valid bs hv hp) hne]
  -- the fold needs no non-emptiness: drop it so that the induction hypothesis is unconditional
  clear hne
  induction bs with
  | nil => simp [parts, inAny]
  | cons b r ih =>
    rw [List.pairwise_cons] at hd
    rw [parts_cons]
    by_cases h : sp.filter (inBand b) = []
    · rw [if_pos h, ih hd.2]
      exact congrArg _ (List.filter_congr fun c hc => by simp [inAny_cons, List.filter_eq_nil_iff.1 h c hc])
    · rw [if_neg h, List.foldr_cons, ih hd.2]
      refine mk_of_perm_valid (valid_filter hv hp) (pos_filter hp) ?_
      refine filter_or_perm _ _ sp fun c hc ⟨h1, h2⟩ => ?_
      obtain ⟨b2, hb2, h2⟩ := (inAny_iff r c).1 h2
      exact not_two_bands (hp c hc) (hd.1 b2 hb2) h1 h2

/-- **`filter_si`**: exactly the channels inside the common range remain (order and records preserved); no channel
left is a ValueError -/
theorem filterSi_spec (cr : List Band) (sp : List Ch) (hv : Valid sp) (hp : Pos sp) (hd : cr.Pairwise BandDisj) :
    filterSi cr sp = if sp.filter (inAny cr) = [] then .error .value else .ok (sp.filter (inAny cr)) := by
  rw [filterSi_eq cr hv hp]
  simp only [← parts_nil_iff]
  split_ifs with h
  · rfl
  · exact mux_demux cr sp hv hp hd h

/-- **removed once**: filtering again removes nothing more -/
theorem filter_idempotent (cr : List Band) (sp s' : List Ch) (hv : Valid sp) (hp : Pos sp)
    (hd : cr.Pairwise BandDisj) (h : filterSi cr sp = .ok s') : filterSi cr s' = .ok s' := by
  rw [filterSi_spec cr sp hv hp hd, Except.ite_error_eq_ok, Except.ok.injEq] at h
  obtain ⟨hne, rfl⟩ := h
  rw [filterSi_spec cr _ (valid_filter hv hp) (pos_filter hp) hd, List.filter_filter]
  simp only [Bool.and_self, if_neg hne]

/-- a single-band amplifier whose band holds every channel returns the spectrum as it is -/
theorem edfaCall_id (b : Band) (r : List Band) (sp : List Ch) (hv : Valid sp) (hp : Pos sp) (hne : sp ≠ [])
    (hin : ∀ c ∈ sp, inBand b c = true) : edfaCall (b :: r) sp = .ok sp := by
  rw [edfaCall, demux_sublist b sp hv hp, List.filter_eq_self.2 hin, if_neg hne]

/-- a multiband amplifier whose disjoint bands together hold every channel returns the spectrum as it is:
no channel lost at a band edge, none duplicated, order and records intact after the re-merge -/
theorem multibandCall_id (bs : List Band) (sp : List Ch) (hv : Valid sp) (hp : Pos sp) (hne : sp ≠ [])
    (hd : bs.Pairwise BandDisj) (hin : ∀ c ∈ sp, inAny bs c = true) : multibandCall bs sp = .ok sp := by
  rw [multibandCall_eq_filterSi, filterSi_spec bs sp hv hp hd, List.filter_eq_self.2 hin, if_neg hne]

/-! ### the common range of the amplifiers of a path (`utils.find_common_range`) -/

theorem foldl_intersect_inAny {rounds : List (List Band)} {init : List Band} {d : Int} {c : Ch} (hc : 0 < c.slot) :
    inAny (rounds.foldl (fun common bands => intersectRound common bands d) init) c = true ↔
      inAny init c = true ∧ ∀ a ∈ rounds, inAny a c = true := by
  induction rounds generalizing init with
  | nil => simp
  | cons a r ih =>
    simp only [List.foldl_cons, ih, inAny_intersectRound hc, List.mem_cons, forall_eq_or_imp, and_assoc]

theorem foldl_intersect_disj {rounds : List (List Band)} {init : List Band} {d : Int} (h0 : init.Pairwise BandDisj)
    (h : ∀ a ∈ rounds, a.Pairwise BandDisj) :
    (rounds.foldl (fun common bands => intersectRound common bands d) init).Pairwise BandDisj :=
  List.foldlRecOn rounds _ h0 fun _ hc a ha => intersectRound_disj d hc (h a ha)

/-- **`find_common_range`**: a channel lies in a band of the common range iff it lies in a band of *every*
amplifier of the path -/
theorem commonRange_spec (amps : List (List Band)) (lo hi : Option Int) (d : Int) (hne : amps ≠ []) (c : Ch)
    (hc : 0 < c.slot) : inAny (commonRange amps lo hi d) c = true ↔ ∀ a ∈ amps, inAny a c = true := by
  obtain ⟨a, r, rfl⟩ := List.exists_cons_of_ne_nil hne
  rw [commonRange_cons, inAny_sortB, foldl_intersect_inAny hc]
  simp only [mem_removeDup, List.forall_mem_map, inAny_sortB]
  exact and_iff_right_of_imp fun h => h a List.mem_cons_self

/-- the bands of the common range are pairwise disjoint when those of each amplifier are -/
theorem commonRange_disjoint (amps : List (List Band)) (lo hi : Option Int) (d : Int)
    (h : ∀ a ∈ amps, a.Pairwise BandDisj) : (commonRange amps lo hi d).Pairwise BandDisj := by
  cases amps with
  | nil => cases lo <;> cases hi <;> simp [commonRange, removeDup]
  | cons a r =>
    have hall : ∀ x ∈ removeDup ((a :: r).map sortB), x.Pairwise BandDisj := by
      simp only [mem_removeDup, List.forall_mem_map]
      exact fun x hx => (h x hx).perm (sortB_perm x).symm Or.symm
    exact (foldl_intersect_disj (hall _ List.mem_cons_self) hall).perm (sortB_perm _).symm Or.symm

/-! ### a path of well-formed elements -/

/-- a well-formed amplifier: a single-band amplifier has exactly one band; the bands of a multiband amplifier are
pairwise disjoint and its declared bands (`params.bands`) cover what its amplifiers cover -/
def Elem.WF : Elem → Prop
  | .edfa bands => ∃ b, bands = [b]
  | .multiband pb cb => pb.Pairwise BandDisj ∧ cb.Pairwise BandDisj ∧ ∀ c, inAny pb c = inAny cb c
  | .other => True

theorem ampBands_disj {path : List Elem} (h : ∀ e ∈ path, e.WF) : ∀ a ∈ ampBands path, a.Pairwise BandDisj := by
  intro a ha
  obtain ⟨e, he, hea⟩ := List.mem_filterMap.1 ha
  have hw := h e he
  cases e with
  | edfa b =>
    obtain ⟨b0, rfl⟩ := hw
    cases hea
    exact List.pairwise_singleton _ _
  | multiband pb cb =>
    cases hea
    exact hw.1
  | other => cases hea

/-- **every element of a path returns exactly the channel list it was given** (count, order, baud rate, slot width,
label, transmitter data) once every channel lies in a band of every amplifier – induction over the path -/
theorem path_preserves_channels (path : List Elem) (sp : List Ch) (hv : Valid sp) (hp : Pos sp) (hne : sp ≠ [])
    (hwf : ∀ e ∈ path, e.WF) (hin : ∀ c ∈ sp, ∀ a ∈ ampBands path, inAny a c = true) : callAll path sp = .ok sp := by
  have hcall : ∀ e ∈ path, e.call sp = .ok sp := by
    intro e he
    have hw := hwf e he
    cases e with
    | edfa bands =>
      obtain ⟨b, rfl⟩ := hw
      refine edfaCall_id b [] sp hv hp hne fun c hc => ?_
      simpa [inAny] using hin c hc [b] (List.mem_filterMap.2 ⟨_, he, rfl⟩)
    | multiband pb cb =>
      obtain ⟨_, hcb, hcov⟩ := hw
      refine multibandCall_id cb sp hv hp hne hcb fun c hc => ?_
      rw [← hcov c]
      exact hin c hc pb (List.mem_filterMap.2 ⟨_, he, rfl⟩)
    | other => rfl
  -- `hcall` is all the induction needs; the hypotheses about `path` as a whole would only weaken its hypothesis
  clear hwf hin
  induction path with
  | nil => rfl
  | cons e r ih =>
    rw [callAll, hcall e List.mem_cons_self]
    exact ih fun x hx => hcall x (List.mem_cons_of_mem _ hx)

/-- **C07, end to end** (`request.propagate`): the supplied channels are sorted (or rejected by `mk_rejects_iff`); the
channels outside the common range of the path's amplifiers are removed once, before propagation; every remaining
channel reaches the receiver exactly once, in frequency order, with its own record, through any mix of single- and
multi-band amplifiers -/
theorem propagate_spec (path : List Elem) (lo hi : Option Int) (d : Int) (l si : List Ch)
    (hmk : mkSpectrum l = .ok si) (hp : Pos l) (hwf : ∀ e ∈ path, e.WF) :
    propagate path lo hi d l =
      if si.filter (inAny (commonRange (ampBands path) lo hi d)) = [] then .error .value
      else .ok (si.filter (inAny (commonRange (ampBands path) lo hi d))) := by
  have hv : Valid si := valid_of_mk hmk
  have hps : Pos si := fun c hc => hp c ((mk_sorted_perm l si hmk).1.subset hc)
  have hd := commonRange_disjoint (ampBands path) lo hi d (ampBands_disj hwf)
  simp only [propagate, hmk, filterSi_spec _ si hv hps hd]
  split_ifs with hne
  · rfl
  · refine path_preserves_channels path _ (valid_filter hv hps) (pos_filter hps) hne hwf ?_
    intro c hc a ha
    have hc' := List.mem_filter.1 hc
    exact (commonRange_spec (ampBands path) lo hi d (List.ne_nil_of_mem ha) c (hps c hc'.1)).1 hc'.2 a ha

/-! ### no silent duplicates -/

theorem mux_error_kind {ps : List (List Ch)} {e : Err} (hne : ps ≠ []) (h : mux ps = .error e) : e = .spectrum := by
  induction ps with
  | nil => exact absurd rfl hne
  | cons x r ih =>
    cases r with
    | nil => cases h
    | cons y r' =>
      rw [mux] at h
      split at h
      · exact mk_error_kind _ e h
      · next hm =>
        cases h
        exact ih (List.cons_ne_nil _ _) hm

/-- a merge returns a valid spectrum made of exactly the channels it was given -/
theorem mux_spec (ps : List (List Ch)) (m : List Ch) (hv : ∀ p ∈ ps, Valid p) (h : mux ps = .ok m) :
    Valid m ∧ m.Perm ps.flatten := by
  rw [mux_eq_foldr hv (by rintro rfl; cases h)] at h
  induction ps generalizing m with
  | nil => cases h; exact ⟨rfl, .nil⟩
  | cons x r ih =>
    obtain ⟨m', hm, h⟩ := Except.bind_eq_ok.1 h
    exact ⟨valid_of_mk h, (mk_sorted_perm _ m h).1.trans
      ((ih m' (fun p hp => hv p (List.mem_cons_of_mem _ hp)) hm).2.append_left x)⟩

/-- **no silent duplicate**: whatever the bands, an answer of a multiband amplifier is strictly frequency-sorted
(each channel at most once) and consists of exactly the selected channels -/
theorem multiband_no_dup (bs : List Band) (sp out : List Ch) (hv : Valid sp) (hp : Pos sp)
    (h : multibandCall bs sp = .ok out) :
    out.Pairwise (fun a b => a.f < b.f) ∧ out.Perm (parts bs sp).flatten := by
  rw [multibandCall_eq_filterSi, filterSi_eq bs hv hp, Except.ite_error_eq_ok] at h
  obtain ⟨hvo, hperm⟩ := mux_spec _ out (parts_valid bs hv hp) h.2
  refine ⟨valid_strict hvo fun c hc => ?_, hperm⟩
  obtain ⟨p, hpm, hcp⟩ := List.mem_flatten.1 (hperm.subset hc)
  obtain ⟨_, b, _, rfl⟩ := mem_parts.1 hpm
  exact hp c (List.mem_filter.1 hcp).1

/-- **overlapping amplifier bands ⇒ spectrum error**, never the channel twice -/
theorem multiband_overlap_rejects (l1 l2 l3 : List Band) (b1 b2 : Band) (sp : List Ch) (hv : Valid sp) (hp : Pos sp)
    (c : Ch) (hc : c ∈ sp) (h1 : inBand b1 c = true) (h2 : inBand b2 c = true) :
    multibandCall (l1 ++ b1 :: l2 ++ b2 :: l3) sp = .error .spectrum := by
  have hm : ∀ {b}, inBand b c = true → c ∈ sp.filter (inBand b) := fun h => List.mem_filter.2 ⟨hc, h⟩
  -- the two selections that hold `c` are both among the parts to be merged
  have hsub : [sp.filter (inBand b1), sp.filter (inBand b2)].Sublist (parts (l1 ++ b1 :: l2 ++ b2 :: l3) sp) := by
    have : parts [b1, b2] sp = [sp.filter (inBand b1), sp.filter (inBand b2)] := by
      rw [parts_cons, parts_cons, if_neg (List.ne_nil_of_mem (hm h1)), if_neg (List.ne_nil_of_mem (hm h2))]; rfl
    rw [← this]
    exact ((List.singleton_sublist.2 (by simp)).append (List.singleton_sublist.2 List.mem_cons_self)).filterMap _
  cases hres : multibandCall (l1 ++ b1 :: l2 ++ b2 :: l3) sp with
  | ok out =>
    obtain ⟨hstrict, hperm⟩ := multiband_no_dup _ sp out hv hp hres
    have := (List.nodup_flatten.1 (hperm.nodup_iff.1 (nodup_of_strict hstrict))).2.sublist hsub
    exact absurd (hm h2) (List.rel_of_pairwise_cons this List.mem_cons_self (hm h1))
  | error e =>
    have hne := List.ne_nil_of_mem (hsub.subset List.mem_cons_self)
    rw [multibandCall_eq_filterSi, filterSi_eq _ hv hp, if_neg hne] at hres
    rw [mux_error_kind hne hres]

/-! ### uniform grid -/

/-- **a uniform grid is always a valid spectrum** (spacing > 0, baud rate ≤ spacing): `automatic_nch` channels, sorted,
non-overlapping, returned as generated -/
theorem grid_valid (fmin fmax spacing baud : Int) (hs : 0 < spacing) (hb : baud ≤ spacing) :
    mkSpectrum (gridChans fmin fmax spacing baud) = .ok (gridChans fmin fmax spacing baud) ∧
    (gridChans fmin fmax spacing baud).length = automaticNch fmin fmax spacing := by
  have hfield : ∀ c ∈ gridChans fmin fmax spacing baud, 0 ≤ c.slot ∧ c.baud ≤ c.slot := fun c hc => by
    obtain ⟨i, _, rfl⟩ := List.mem_map.1 hc
    exact ⟨hs.le, hb⟩
  have hpw : (gridChans fmin fmax spacing baud).Pairwise fun a b => Before a b ∧ a.f ≤ b.f := by
    rw [gridChans, List.pairwise_map]
    refine List.pairwise_lt_range.imp fun {i j} hij => ?_
    have h : spacing * ((i : Int) + 1 + 1) ≤ spacing * ((j : Int) + 1) :=
      Int.mul_le_mul_of_nonneg_left (by omega) hs.le
    simp only [Before, Int.mul_add, Int.mul_one] at h ⊢
    omega
  exact ⟨(valid_iff _).2 ⟨hpw.imp And.right, (noOverlapAdj_iff _ fun c hc => (hfield c hc).1).2 (hpw.imp And.left),
    (baudOk_iff _).2 fun c hc => (hfield c hc).2⟩, by simp [gridChans]⟩

/-- the centre frequencies of a uniform grid lie in `(f_min, f_max]` -/
theorem grid_inside (fmin fmax spacing baud : Int) (hs : 0 < spacing) (c : Ch)
    (hc : c ∈ gridChans fmin fmax spacing baud) : fmin < c.f ∧ c.f ≤ fmax := by
  simp only [gridChans, List.mem_map, List.mem_range, automaticNch] at hc
  obtain ⟨i, hi, rfl⟩ := hc
  have h1 : spacing * ((i : Int) + 1) ≤ spacing * ((fmax - fmin) / spacing) :=
    Int.mul_le_mul_of_nonneg_left (by omega) hs.le
  have h2 := Int.mul_ediv_self_le (x := fmax - fmin) (ne_of_gt hs)
  have h3 : 0 < spacing * ((i : Int) + 1) := Int.mul_pos hs (by omega)
  dsimp only
  omega

/-- `create_input_spectral_information` succeeds on every sensible request (`f_min ≤ f_max`) -/
theorem gridSpectrum_ok (fmin fmax spacing baud : Int) (hs : 0 < spacing) (hb : baud ≤ spacing) (hf : fmin ≤ fmax) :
    gridSpectrum fmin fmax spacing baud = .ok (gridChans fmin fmax spacing baud) := by
  rw [gridSpectrum, if_neg (Int.ediv_nonneg (by omega) hs.le).not_gt]
  exact (grid_valid fmin fmax spacing baud hs hb).1

/-! ### how the elements of a path are built: `Elem.WF` is a consequence, not a hypothesis -/

/-- the general statement about `Multiband_amplifier.__init__`: starting from duplicate-free `params.bands` all of which
belong to amplifiers of the list, with pairwise disjoint amplifier bands, the element is well-formed -/
theorem mbFold_wf (pb0 amps : List Band) {s : MbState} (h : mbFold { bands := pb0, amps := [] } amps = .ok s)
    (hn : pb0.Nodup) (hsub : ∀ b ∈ pb0, b ∈ amps) (hd : amps.Pairwise BandDisj) :
    (Elem.multiband s.bands (s.amps.map (fun kv => kv.2))).WF := by
  obtain ⟨ha, hm, hnd⟩ := mbFold_spec h
  have hcb : s.amps.map (fun kv => kv.2) = amps := by simp [ha, Function.comp_def]
  have hmem : ∀ b, b ∈ s.bands ↔ b ∈ amps := fun b => (hm b).trans (or_iff_right_of_imp (hsub b))
  rw [hcb]
  exact ⟨(hnd hn).pairwise_of_forall_ne fun a ha b hb => hd.forall ((hmem a).1 ha) ((hmem b).1 hb), hd,
    inAny_congr hmem⟩

/-- **loader** (`network_from_json` + `Multiband_amplifier.__init__`): when the bands of the library entry all belong to
listed amplifiers (untyped element; typed element without an `amplifiers` list; typed element listing every member)
and the amplifier bands are pairwise disjoint, the element is well-formed -/
theorem loaded_multiband_wf (libBands : Option (List Band)) (ampBands : List Band) (e : Elem)
    (h : loadMultiband libBands ampBands = .ok e)
    (hlib : ∀ l, libBands = some l → l.Nodup ∧ (ampBands ≠ [] → ∀ b ∈ l, b ∈ ampBands) ∧
      (ampBands = [] → l.Pairwise BandDisj))
    (hd : ampBands.Pairwise BandDisj) : e.WF := by
  rw [loadMultiband] at h
  split at h
  · next s hf =>
    cases h
    cases libBands with
    | none => exact mbFold_wf [] ampBands hf List.nodup_nil (by simp) hd
    | some l =>
      obtain ⟨hn, hsub, hdl⟩ := hlib l rfl
      cases ampBands with
      | nil => exact mbFold_wf l l hf hn (fun b hb => hb) (hdl rfl)
      | cons a r => exact mbFold_wf l (a :: r) hf hn (hsub (by simp)) hd
  · cases h

/-- a typed element created WITHOUT an `amplifiers` list (one amplifier per band of the library entry) is well-formed
as soon as the library entry's member bands are pairwise disjoint -/
theorem loaded_typed_default_wf (members : List Band) (e : Elem) (hd : (dedupBands members).Pairwise BandDisj)
    (h : loadMultiband (some (dedupBands members)) [] = .ok e) : e.WF :=
  loaded_multiband_wf _ [] e h
    (fun l hl => by
      cases hl
      exact ⟨dedupBands_nodup members, fun h => absurd rfl h, fun _ => hd⟩)
    List.Pairwise.nil

/-- a C band (191.3 – 196.1 THz) -/
def exC : Band := { fmin := 191300000000000, fmax := 196100000000000 }
/-- an L band (186 – 190 THz) -/
def exL : Band := { fmin := 186000000000000, fmax := 190000000000000 }

/-- before the design a typed element that lists only SOME of the member amplifiers is not well-formed: the library
band without amplifier is still in `params.bands` (the design step overwrites `params.bands`, see below) -/
theorem loaded_partial_not_wf :
    ∃ e, loadMultiband (some [exC, exL]) [exC] = .ok e ∧ ¬ e.WF := by
  refine ⟨.multiband [exC, exL] [exC], by decide, ?_⟩
  rintro ⟨_, _, hcov⟩
  -- a channel at 188 THz lies in `exL`, which is in `params.bands`, but in the band of no amplifier
  have := hcov { f := 188000000000000, slot := 50000000000, baud := 32000000000, pay := 0 }
  revert this; decide

/-- **auto-design** (`set_egress_amplifier`): `node.params.bands = [a.params.bands[0] for a in amplifiers]`, so the
designed element is well-formed whenever the bands of the selected amplifier varieties are pairwise disjoint – also for
an element that was loaded with a partial amplifier list -/
theorem designed_multiband_wf (existing : List String) (designBands : List Band) (sel : String → Band)
    (hd : ((if existing.isEmpty then (designDict designBands).map (fun kv => kv.1) else existing).map sel).Pairwise
      BandDisj) : (designMultiband existing designBands sel).WF :=
  ⟨hd, hd, fun _ => rfl⟩

/-- what a designed path consists of: single-band amplifiers (`EdfaParams`: exactly one band), multiband amplifiers as
left by `set_egress_amplifier` (with disjoint selected bands), and elements that do not touch the channel set -/
def Elem.Designed (e : Elem) : Prop :=
  (∃ b, e = .edfa [b]) ∨
  (∃ existing designBands sel, e = designMultiband existing designBands sel ∧
    ((if existing.isEmpty then (designDict designBands).map (fun kv => kv.1) else existing).map sel).Pairwise BandDisj) ∨
  e = .other

theorem designed_wf (e : Elem) (h : e.Designed) : e.WF := by
  rcases h with ⟨b, rfl⟩ | ⟨ex, dbs, sel, rfl, hd⟩ | rfl
  · exact ⟨b, rfl⟩
  · exact designed_multiband_wf ex dbs sel hd
  · trivial

/-- **C07 end to end on every designed path, without a well-formedness hypothesis** -/
theorem propagate_spec_designed (path : List Elem) (lo hi : Option Int) (d : Int) (l si : List Ch)
    (hmk : mkSpectrum l = .ok si) (hp : Pos l) (hdes : ∀ e ∈ path, e.Designed) :
    propagate path lo hi d l =
      if si.filter (inAny (commonRange (ampBands path) lo hi d)) = [] then .error .value
      else .ok (si.filter (inAny (commonRange (ampBands path) lo hi d))) :=
  propagate_spec path lo hi d l si hmk hp (fun e he => designed_wf e (hdes e he))

/-! ### non-vacuity -/

/-- a concrete unsorted input: two C-band channels (one edge-aligned), one L-band channel, one in the gap between the
bands -/
def exChans : List Ch :=
  [{ f := 193100000000000, slot := 50000000000, baud := 32000000000, pay := 0 },
   { f := 186025000000000, slot := 50000000000, baud := 32000000000, pay := 1 },
   { f := 191325000000000, slot := 50000000000, baud := 42000000000, pay := 2 },
   { f := 190500000000000, slot := 75000000000, baud := 64000000000, pay := 3 }]
/-- a path that mixes a C+L multiband amplifier and a single-band C amplifier with elements that leave the channel set
alone -/
def exPath : List Elem := [.other, .multiband [exC, exL] [exC, exL], .other, .edfa [exC], .other]

example : mkSpectrum exChans = .ok (sortF exChans) := by decide
example : Pos exChans := by
  intro c hc
  simp only [exChans, List.mem_cons, List.mem_nil_iff, or_false] at hc
  rcases hc with rfl | rfl | rfl | rfl <;> decide
example : ∀ e ∈ exPath, e.WF := by
  intro e he
  simp only [exPath, List.mem_cons, List.mem_nil_iff, or_false] at he
  rcases he with rfl | rfl | rfl | rfl | rfl
  · trivial
  · refine ⟨?_, ?_, fun _ => rfl⟩ <;> simp [BandDisj, exC, exL]
  · trivial
  · exact ⟨exC, rfl⟩
  · trivial
/-- the path keeps exactly the two C-band channels (common range = C), sorted -/
example : propagate exPath none none 50000000000 exChans =
    .ok [{ f := 191325000000000, slot := 50000000000, baud := 42000000000, pay := 2 },
         { f := 193100000000000, slot := 50000000000, baud := 32000000000, pay := 0 }] := by decide
/-- overlapping channels are rejected -/
example : mkSpectrum [{ f := 193100000000000, slot := 50000000000, baud := 32000000000, pay := 0 },
                      { f := 193125000000000, slot := 50000000000, baud := 32000000000, pay := 1 }] = .error .spectrum := by
  decide
/-- overlapping amplifier bands are rejected -/
example : multibandCall [exC, { fmin := 193000000000000, fmax := 197000000000000 }]
    [{ f := 193100000000000, slot := 50000000000, baud := 32000000000, pay := 0 }] = .error .spectrum := by decide

end Gnpy.Bands
