import GnpyModel
import GnpyProofs.Lemmas.Xls
import GnpyProofs.Lemmas.Db
/- Property theorems for C20 — spreadsheet inputs convert to the network and services they describe.
   Model: GnpyModel/Xls.lean.  The wiring theorems are about structured names (`Name`); the rendering
   of names to uid strings is compared with the code on every run (correspondence).
   `convert_ok` (what a successful conversion says, as the structure `Converted`), the names `elemNames` / `Known` and
   the characterisations of the model's definitions stand in Lemmas/Xls.lean. -/
namespace Gnpy.Xls

/-! ### rejections -/

/-- the sanity rules, as one predicate on the table (a disjunction of Boolean tests) -/
def Violates (t : Table) : Prop :=
  badDuplicateCity t = true ∨ badLinkNode t = true ∨ badDuplicateLink t = true ∨ badUnreferenced t = true
  ∨ badEqptNode t = true ∨ badEqptLink t = true ∨ badDuplicateEqpt t = true ∨ badDuplicateIla t = true

theorem sanity_ok_iff (t : Table) : sanity t = .ok () ↔ ¬ Violates t := by
  simp only [sanity, check_bind_eq_ok, check_eq_ok, Violates, not_or, Bool.not_eq_true]

/-- **duplicate, dangling or inconsistent rows are rejected with a topology error rather than
converted**: a table that violates one of the sanity rules (duplicate city, link to an unknown
city, duplicate or reversed-duplicate link, unreferenced site, Eqpt row naming an unknown site or a
non-existing link, duplicate Eqpt row, ILA with two Eqpt rows) is never converted. -/
theorem rejects_bad_rows (t : Table) (h : Violates t) :
    ∃ e, convert t = .error e ∧ e.isTopology = true := by
  cases hs : sanity t with
  | ok u => exact absurd h ((sanity_ok_iff t).1 hs)
  | error e =>
    refine ⟨e, ?_, sanity_error_topology hs⟩
    unfold convert
    rw [hs]
    rfl

/-- non-vacuity: two Links rows A-B and B-A are a violation -/
def dupTable : Table :=
  { nodes := [mkNode [("city", .str "A")], mkNode [("city", .str "B")]],
    links := [mkLink [("from_city", .str "A"), ("to_city", .str "B")],
              mkLink [("from_city", .str "B"), ("to_city", .str "A")]],
    eqpts := [], roadms := [] }
example : Violates dupTable := .inr (.inr (.inl (by decide)))

/-! ### cell layer -/

/-- **west defaults to east**: a Links row whose west cells are all empty describes the same fibre
in both directions. -/
theorem link_west_defaults_to_east (kw : Dict)
    (h : ∀ k ∈ ["west_distance", "west_fiber", "west_lineic", "west_con_in", "west_con_out", "west_pmd", "west_cable"],
      kw.get? k = none ∨ kw.get? k = some .null ∨ kw.get? k = some (.str "")) :
    (mkLink kw).west = (mkLink kw).east := by
  -- `cleanGet_blank` rewrites each west cell to its default, the east value; its hypothesis is taken from `h`, which
  -- leaves the membership of the key in the literal list to the remaining three lemmas
  simp only [mkLink, cleanGet_blank _ (h _ _), List.mem_cons, true_or, or_true]
  rfl

/-- a west cell that is filled is used (stated for the distance; `cleanGet_filled` says it of every column) -/
theorem link_west_cell_used (kw : Dict) (v : J) (h : kw.get? "west_distance" = some v) (h1 : v ≠ .null)
    (h2 : v ≠ .str "") :
    (mkLink kw).west.distance = v :=
  cleanGet_filled _ h h1 h2

/-! ### connections: which element an Eqpt row puts next to which fibre -/

/-- the in-line element chosen at an ILA site with exactly one Eqpt row `q`, for the direction flag
relative to the first neighbour `o0`: the row's EAST element serves the direction that leaves
towards `q.z`, its WEST element the direction that arrives from `q.z` -/
theorem ila_direction_rule (t : Table) (n : Node) (q : Eqpt) (o0 : String)
    (hty : isType "ila" n = true) (hq : eqptsAt t.eqpts n.city = [q]) :
    eqptIn t n o0 true = some (if q.z = o0 then Name.eqE q.a q.z else Name.eqW q.a q.z) ∧
    eqptIn t n o0 false = some (if q.z = o0 then Name.eqW q.a q.z else Name.eqE q.a q.z) := by
  rw [eqptIn_ila hty, eqptIn_ila hty, hq]
  by_cases hz : q.z = o0 <;> simp [hz, ilaLoop]

/-- **ILA site: each Eqpt side lands on the amplifier facing the named neighbour.**  At an ILA site
`c` with neighbours `o0, o1` (Links order) and the single Eqpt row `q = (c, Z)`, `Z ∈ {o0, o1}`:
the row's east element is followed by the fibre towards `Z`, and the fibre coming from `Z` is
followed by the row's west element. -/
theorem eqpt_faces_neighbour_ila (t : Table) (n : Node) (q : Eqpt) (o0 o1 : String) (l : List (Name × Name))
    (a0 b1 a1 b0 : Name)
    (hty : isType "ila" n = true) (hq : eqptsAt t.eqpts n.city = [q])
    (hnb : neighbours t.links n.city = [o0, o1]) (hne : o0 ≠ o1) (hz : q.z = o0 ∨ q.z = o1)
    (h00 : fiberLink t.links o0 n.city = .ok a0) (h01 : fiberLink t.links n.city o1 = .ok b1)
    (h10 : fiberLink t.links o1 n.city = .ok a1) (h11 : fiberLink t.links n.city o0 = .ok b0)
    (h : connectionsAt t n = .ok l) :
    let toZ := if q.z = o0 then b0 else b1
    let fromZ := if q.z = o0 then a0 else a1
    (Name.eqE q.a q.z, toZ) ∈ l ∧ (fromZ, Name.eqW q.a q.z) ∈ l := by
  obtain ⟨he, hw⟩ := ila_direction_rule t n q o0 hty hq
  obtain ⟨_, h0, _, h1, _, ha0, _, hb1, _, ha1, _, hb0, rfl⟩ := connectionsAt_line (.inl hty) h
  -- the neighbours and the four fibres the site's connections are made of are the given ones
  rw [hnb] at h0 h1
  cases h0
  cases h1
  cases h00.symm.trans ha0
  cases h01.symm.trans hb1
  cases h10.symm.trans ha1
  cases h11.symm.trans hb0
  rw [he, hw]
  rcases hz with hz | hz
  · simp [hz, connectEqpt]
  · have : ¬ q.z = o0 := by rw [hz]; exact fun e => hne e.symm
    simp [this, connectEqpt]

/-- **ROADM site: the Eqpt row (c, Z) puts its east element between the ROADM and the fibre to Z
and its west element between the fibre from Z and the ROADM.** -/
theorem eqpt_faces_neighbour_roadm (t : Table) (n : Node) (q : Eqpt) (l : List (Name × Name)) (fo fi : Name)
    (hty : isType "roadm" n = true) (hq : q ∈ eqptsAt t.eqpts n.city)
    (huniq : (eqptsAt t.eqpts n.city).filter (fun e => e.z == q.z) = [q])
    (hnb : q.z ∈ neighbours t.links n.city)
    (hfo : fiberLink t.links n.city q.z = .ok fo) (hfi : fiberLink t.links q.z n.city = .ok fi)
    (h : connectionsAt t n = .ok l) :
    (Name.roadm n.city, Name.eqE q.a q.z) ∈ l ∧ (Name.eqE q.a q.z, fo) ∈ l ∧
    (fi, Name.eqW q.a q.z) ∈ l ∧ (Name.eqW q.a q.z, Name.roadm n.city) ∈ l := by
  have hin : ∀ east, eqptIn t n q.z east = some (if east then Name.eqE q.a q.z else Name.eqW q.a q.z) :=
    fun east => by rw [eqptIn_roadm hty, huniq]; rfl
  obtain ⟨parts, hp, rfl⟩ := connectionsAt_roadm hty h
  obtain ⟨part, hpart, fo', hfo', fi', hfi', rfl⟩ := hp.exists_right hnb
  cases hfo.symm.trans hfo'
  cases hfi.symm.trans hfi'
  rw [hin, hin] at hpart
  have hsub : ∀ c ∈ _, c ∈ parts.flatten := fun c hc => List.mem_flatten.2 ⟨_, hpart, hc⟩
  exact ⟨hsub _ (List.mem_append_left _ List.mem_cons_self),
    hsub _ (List.mem_append_left _ (List.mem_cons_of_mem _ List.mem_cons_self)),
    hsub _ (List.mem_append_right _ List.mem_cons_self),
    hsub _ (List.mem_append_right _ (List.mem_cons_of_mem _ List.mem_cons_self))⟩

/-! ### the converter -/

/-- **for every link one fibre per direction with the sheet's values**: each Links row `l` yields a
fibre `l.a → l.z` built from the east cells and a fibre `l.z → l.a` built from the west cells (which
`mkLink` has already defaulted to the east ones, see `link_west_defaults_to_east`). -/
theorem both_directions (t0 : Table) (o : Out) (h : convert t0 = .ok o) (l : Link) (hl : l ∈ t0.links) :
    (∃ e ∈ o.elements, IsFiberOf e l.a l.z l.east) ∧ (∃ e ∈ o.elements, IsFiberOf e l.z l.a l.west) := by
  obtain ⟨e, he, _, _, hf⟩ := (convert_ok h).east l hl
  obtain ⟨e', he', _, _, hf'⟩ := (convert_ok h).west l hl
  exact ⟨⟨e, he, fiberElem_isFiberOf hf⟩, ⟨e', he', fiberElem_isFiberOf hf'⟩⟩

/-- **one ROADM plus transceiver per ROADM site**, connected in both directions -/
theorem roadm_site_shape (t0 : Table) (o : Out) (h : convert t0 = .ok o) (n : Node)
    (hn : n ∈ fixedNodes t0) (ht : isType "roadm" n = true) :
    (∃ e ∈ o.elements, e.name = .trx n.city ∧ e.body.get? "type" = some (.str "Transceiver")) ∧
    (∃ e ∈ o.elements, e.name = .roadm n.city) ∧
    (Name.trx n.city, Name.roadm n.city) ∈ o.connections ∧ (Name.roadm n.city, Name.trx n.city) ∈ o.connections := by
  have cv := convert_ok h
  have hn' : n ∈ roadmSites (fixedTable t0) := List.mem_filter.2 ⟨hn, ht⟩
  obtain ⟨e, he, hf⟩ := cv.roadm n hn'
  obtain ⟨pc, _, hc⟩ := cv.connections
  refine ⟨⟨_, cv.trx n hn', rfl, simpleElem_type ..⟩, ⟨e, he, roadmElem_name hf⟩, ?_, ?_⟩ <;>
  · rw [hc]
    exact List.mem_append_right _ (List.mem_flatten.2 ⟨_, List.mem_map_of_mem hn', by simp⟩)

/-- **a site declared ILA whose degree is not 2 is converted as a ROADM** -/
theorem degree_ne_2_becomes_roadm (links : List Link) (n : Node) (h1 : lower n.ntype = "ila")
    (h2 : degree links n.city ≠ 2) : isType "roadm" (correctType links n) = true := by
  simp only [correctType, h1, beq_self_eq_true, Bool.true_and, bne_iff_ne, ne_eq, h2, not_false_eq_true, if_true,
    isType]
  -- what is left is `lower "ROADM" == "roadm"`
  decide +kernel

/-- fused sites give two Fused elements, ILA sites without Eqpt row two untyped amplifiers -/
theorem ila_fused_site_shape (t0 : Table) (o : Out) (h : convert t0 = .ok o) (n : Node) (hn : n ∈ fixedNodes t0) :
    (isType "fused" n = true →
      (∃ e ∈ o.elements, e.name = .fusedW n.city ∧ e.body.get? "type" = some (.str "Fused")) ∧
      (∃ e ∈ o.elements, e.name = .fusedE n.city ∧ e.body.get? "type" = some (.str "Fused"))) ∧
    (isType "ila" n = true → (eqptsAt t0.eqpts n.city).isEmpty = true →
      (∃ e ∈ o.elements, e.name = .ilaW n.city ∧ e.body.get? "type" = some (.str "Edfa")) ∧
      (∃ e ∈ o.elements, e.name = .ilaE n.city ∧ e.body.get? "type" = some (.str "Edfa"))) := by
  have cv := convert_ok h
  refine ⟨fun ht => ?_, fun ht he => ?_⟩
  · have hn' : n ∈ fusedSites (fixedTable t0) := List.mem_filter.2 ⟨hn, ht⟩
    exact ⟨⟨_, cv.fusedW n hn', rfl, simpleElem_type ..⟩, ⟨_, cv.fusedE n hn', rfl, simpleElem_type ..⟩⟩
  · have hn' : n ∈ bareIlas (fixedTable t0) := List.mem_filter.2 ⟨hn, by rw [ht]; exact he⟩
    exact ⟨⟨_, cv.ilaW n hn', rfl, simpleElem_type ..⟩, ⟨_, cv.ilaE n hn', rfl, simpleElem_type ..⟩⟩

/-- **all connection endpoints exist**: in every converted workbook both ends of every connection
are elements of the document. -/
theorem endpoints_exist (t0 : Table) (o : Out) (h : convert t0 = .ok o) :
    ∀ c ∈ o.connections, (∃ e ∈ o.elements, e.name = c.1) ∧ (∃ e ∈ o.elements, e.name = c.2) := by
  have cv := convert_ok h
  obtain ⟨pc, hpc, hconn⟩ := cv.connections
  suffices ∀ c ∈ o.connections, Known (fixedTable t0) c.1 ∧ Known (fixedTable t0) c.2 from
    fun c hc => ⟨cv.known (this c hc).1, cv.known (this c hc).2⟩
  intro c hc
  rw [hconn] at hc
  rcases List.mem_append.1 hc with hc | hc <;> obtain ⟨part, hpart, hcp⟩ := List.mem_flatten.1 hc
  · obtain ⟨n, hn, hcn⟩ := hpc.exists_left hpart
    exact connectionsAt_ends hn hcn c hcp
  · obtain ⟨n, hn, rfl⟩ := List.mem_map.1 hpart
    simp only [List.mem_cons, List.not_mem_nil, or_false] at hcp
    rcases hcp with rfl | rfl <;> exact ⟨⟨n, hn, rfl⟩, ⟨n, hn, rfl⟩⟩

/-- **names are unique** (structured names): in a converted workbook without self-loop rows no two
elements carry the same name.  The rendering of names to uid strings is injective as long as city
names and cable ids do not contain the separators; that part is not proved (the monitor checks the uids of every run
for uniqueness). -/
theorem names_unique (t0 : Table) (o : Out) (h : convert t0 = .ok o) (hself : ∀ l ∈ t0.links, l.a ≠ l.z) :
    (o.elements.map (·.name)).Nodup :=
  have cv := convert_ok h
  cv.names ▸ elemNames_nodup t0 cv.sane hself

/-! ### services (gnpy/tools/service_sheet.py) -/

/-- **units**: GHz → Hz and Gbit/s → bit/s multiply by 10⁹; dBm → W is `10^(p/10)·10⁻³`, i.e.
`dbm2watt`, and positive -/
theorem request_units (x : ℝ) :
    ghz2hz x = x * 1000000000 ∧ gbps2bps x = x * 1000000000 ∧ dbm2w x = dbm2watt x ∧ 0 < dbm2w x := by
  refine ⟨by simp [ghz2hz], by simp [gbps2bps], ?_, ?_⟩
  · simp only [dbm2w, dbm2watt, Nat.cast_one, Nat.cast_ofNat]
    ring
  · simp only [dbm2w, Nat.cast_one, Nat.cast_ofNat]
    have := db2lin_pos x
    positivity

/-- dBm → W is strictly increasing -/
theorem request_power_monotone (x y : ℝ) (h : x < y) : dbm2w x < dbm2w y := by
  exact mul_lt_mul_of_pos_right ((db2lin_lt_iff x y).2 h) (by norm_num)

/-- **one disjunction group per 'disjoint from' entry**: a request element produces a
synchronisation vector exactly when its disjointness list is not empty, and the vector names the
request itself followed by every listed request, in order. -/
theorem sync_vector_per_disjoint_entry (e : ReqElem) :
    (pathSync e = none ↔ e.disjointFrom = []) ∧
    (e.disjointFrom ≠ [] → pathSync e = some (.obj [("synchronization-id", e.requestId),
      ("svec", .obj [("relaxable", .bool false), ("disjointness", .str "node link"),
        ("request-id-number", .arr (e.requestId :: e.disjointFrom.map J.str))])])) := by
  cases hd : e.disjointFrom <;> simp [pathSync, hd]

/-- the request is between the named sites' transceivers, whatever the other cells say -/
theorem request_endpoints (r : Request) (modes : Option (List String)) (bidir : Bool) (e : ReqElem)
    (h : mkReqElem r modes bidir = .ok e) :
    e.source = s!"trx {asStr r.source}" ∧ e.destination = s!"trx {asStr r.destination}" ∧ e.bidir = bidir ∧
    e.loose = (if r.isLoose then "LOOSE" else "STRICT") := by
  unfold mkReqElem at h
  simp only [Except.bind_eq_ok, Except.pure_eq_ok_iff] at h
  -- seven binds, none of which touches the four fields
  obtain ⟨_, _, _, _, _, _, _, _, _, _, _, _, _, _, rfl⟩ := h
  exact ⟨rfl, rfl, rfl, rfl⟩

end Gnpy.Xls
