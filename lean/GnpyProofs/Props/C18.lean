import GnpyModel
import GnpyProofs.Lemmas.Round
import GnpyProofs.Lemmas.Yang
import GnpyProofs.Lemmas.YangDoc
/- Property theorems for C18 — input documents mean the same thing in legacy and YANG form.
   Models: GnpyModel/Round.lean (decimal formatting), GnpyModel/Json.lean, GnpyModel/Yang.lean.
   The property theorems and their non-vacuity examples live here, with the vocabulary of their statements (`WfKind`,
   `LossRel`, the witness documents), except the three that go by recursion on the JSON tree (`none_empty_inverse`,
   `none_to_empty_idempotent`, `convert_dict_idempotent`: Lemmas/Yang.lean) and the three liftings of a round trip
   through a combinator (`forEachIn_roundtrip`, `withParams_roundtrip`, `onRoadmParams_roundtrip`, with `ElemRel`:
   Lemmas/YangDoc.lean).  What is said about the model's definitions is in Lemmas/{Round,Json,Yang,YangDoc}.lean. -/
namespace Gnpy.Round

/-! ### decimal formatting of values (`PrettyFloat`) -/

/-- **values are preserved to the declared precision.**  The text printed for a double `x` with `d`
declared fraction digits denotes the decimal `R / 10^d` (`R = roundDigits x d`); it differs from the
exact binary value of `x` by at most half a unit of the last declared digit. -/
theorem fmt_error_bound (x : Dyadic) (d : Nat) :
    |(roundDigits x d : ℚ) / (10 : ℚ) ^ d - x.absVal| ≤ 1 / 2 / (10 : ℚ) ^ d := by
  obtain ⟨hpos, hval⟩ := scaled_spec x d
  have hp : (0 : ℚ) < (10 : ℚ) ^ d := by positivity
  rw [← abs_sub_mul_div hp, div_le_div_iff_of_pos_right hp, ← hval]
  exact roundHalfEvenDiv_err hpos

/-- **a second pass changes nothing.**  Any double `y` that lies strictly within half a unit of the
last declared digit of the decimal printed for `x` (in particular the double `float(text)` that
`convert_back` reads, as long as |x|·10^d < 2^52) is printed with the same digits again. -/
theorem fmt_fixpoint (x y : Dyadic) (d : Nat)
    (h : |y.absVal - (roundDigits x d : ℚ) / (10 : ℚ) ^ d| < 1 / 2 / (10 : ℚ) ^ d) :
    roundDigits y d = roundDigits x d :=
  roundDigits_unique h

/-- printing is a fixpoint on values that already have at most `d` digits: R/10^d prints as R -/
theorem fmt_exact (x : Dyadic) (d R : Nat) (h : x.absVal = (R : ℚ) / (10 : ℚ) ^ d) :
    roundDigits x d = R :=
  roundDigits_unique (by rw [h, sub_self, abs_zero]; positivity)

/-- non-vacuity: 0.125 printed with two digits is the tie 12.5 → "0.12" (half-even: down, and the bound
    is attained); 0.375 is the tie 37.5 → "0.38" (up) -/
example : roundDigits ⟨false, 1, -3⟩ 2 = 12 := by decide +kernel
example : fmtBits 4593671619917905920 2 = some "0.12" := by decide +kernel
example : fmtBits 4600427019358961664 2 = some "0.38" := by decide +kernel

end Gnpy.Round

namespace Gnpy.Yang

/-! ### nulls, decimal strings (theorems in Lemmas/Yang.lean) -/

example : noBoxedNull (.obj [("out_voa", .null), ("amps", .arr [.null, .flt 3])]) = true := by decide +kernel
example : emptyToNone (noneToEmpty (.obj [("out_voa", .null), ("amps", .arr [.null, .flt 3])]))
    = .obj [("out_voa", .null), ("amps", .arr [.null, .flt 3])] := by decide +kernel

example : convertDict [] 2 (.obj [("gain_target", .flt 4625619029774565376), ("N", .int 3), ("loss", .int 2)])
    = .ok (.obj [("gain_target", .str "17.5"), ("N", .int 3), ("loss", .str "2.0")]) := by decide +kernel

/-! ### the structural converters on one dict, there and back -/

/-- a legacy per-degree entry: absent, or a non-empty dict with distinct degree names -/
def WfKind (p : Dict) (k : String) : Prop :=
  p.get? k = none ∨ ∃ ts : Dict, p.get? k = some (.obj ts) ∧ ts ≠ [] ∧ (ts.map (·.1)).Nodup

/-- one kind of per-degree entry, there and back: a well-formed entry can be popped, and replaying its targets on any
dict without `k` puts the entry back under `k` and touches nothing else -/
theorem popTargets_replay (k : String) (hk : k ∈ eqTypes) (p : Dict) (h : WfKind p k) :
    ∃ p' T, popTargets k p = .ok (p', T) ∧ ∀ d : Dict, d.get? k = none →
      ∃ q, applyTargets T d = .ok q ∧ ∀ k', q.get? k' = if k' = k then p.get? k else d.get? k' := by
  rcases h with h | ⟨ts, h, hne, hnd⟩
  · refine ⟨p, [], popTargets_absent h, fun d hd => ⟨d, rfl, fun k' => ?_⟩⟩
    split <;> simp [*]
  · refine ⟨p.erase k, targetsOf k ts, by simp [popTargets, h, J.truthy, hne], fun d hd => ?_⟩
    obtain ⟨q, hq, hqk⟩ := applyTargets_targetsOf k hk ts [] d (by simp [degreeEntry, hd])
    rw [Dict.foldl_set_of_nodup ts [] hnd] at hqk
    exact ⟨q, hq, by simpa [degreeEntry, hne, h] using hqk⟩

/-- **every per-degree target of the three kinds survives legacy → YANG → legacy, in order.**
For a ROADM `params` dict in legacy form whose `per_degree_pch_out_db`, `per_degree_psd_out_mWperGHz`
and `per_degree_psd_out_mWperSlotWidth` entries are absent or non-empty dicts with distinct degree
names, `convert_degree` followed by `convert_back_degree` succeeds and gives a dict with the same
value under every key – in particular each of the three degree dicts comes back entry for entry in
the original order (values are equal as trees, so the order inside them is part of the claim). -/
theorem degree_roundtrip (p : Dict) (h0 : p.get? "per_degree_power_targets" = none)
    (h1 : WfKind p "per_degree_pch_out_db") (h2 : WfKind p "per_degree_psd_out_mWperGHz")
    (h3 : WfKind p "per_degree_psd_out_mWperSlotWidth") :
    ∃ y q, degreeToYang p = .ok y ∧ degreeToLegacy y = .ok q ∧ ∀ k, q.get? k = p.get? k := by
  obtain ⟨p1, T1, e1, r1⟩ := popTargets_replay _ (by simp [eqTypes]) p h1
  have g1 := popTargets_out e1
  obtain ⟨p2, T2, e2, r2⟩ := popTargets_replay "per_degree_psd_out_mWperGHz" (by simp [eqTypes]) p1
    (by simpa [WfKind, g1] using h2)
  have g2 := popTargets_out e2
  obtain ⟨p3, T3, e3, r3⟩ := popTargets_replay "per_degree_psd_out_mWperSlotWidth" (by simp [eqTypes]) p2
    (by simpa [WfKind, g2, g1] using h3)
  have g3 := popTargets_out e3
  -- replaying the three lists on a dict that looks like `p3` (`p` without the three kinds) gives `p` back
  have replay : ∀ d : Dict, (∀ k, d.get? k = p3.get? k) →
      ∃ q, applyTargets (T1 ++ T2 ++ T3) d = .ok q ∧ ∀ k, q.get? k = p.get? k := by
    intro d hd
    obtain ⟨q1, a1, c1⟩ := r1 d (by simp [hd, g3, g2, g1])
    obtain ⟨q2, a2, c2⟩ := r2 q1 (by simp [c1, hd, g3, g2])
    obtain ⟨q3, a3, c3⟩ := r3 q2 (by simp [c2, c1, hd, g3])
    refine ⟨q3, by simp [applyTargets_append, a1, a2, a3], fun k => ?_⟩
    simp only [c3, c2, c1, hd, g3, g2, g1, String.reduceEq, if_false]
    split_ifs <;> simp [*]
  have hp3 : p3.get? "per_degree_power_targets" = none := by simp [g3, g2, g1, h0]
  simp only [degreeToYang, e1, e2, e3, Except.ok_bind, Except.pure_eq_ok]
  generalize T1 ++ T2 ++ T3 = N at replay ⊢
  by_cases hN : N = []
  · -- nothing to convert: the YANG form is the dict itself
    subst hN
    obtain ⟨q, hq, hqk⟩ := replay p3 fun _ => rfl
    cases hq
    exact ⟨p3, p3, rfl, by simp [degreeToLegacy, hp3], hqk⟩
  · obtain ⟨q, hq, hqk⟩ := replay ((p3.set "per_degree_power_targets" (.arr N)).erase "per_degree_power_targets")
      fun k => by by_cases hk : k = "per_degree_power_targets" <;> simp [hk, hp3]
    exact ⟨p3.set "per_degree_power_targets" (.arr N), q, by simp [hN],
      by simpa [degreeToLegacy, J.truthy, hN] using hq, hqk⟩

/-- non-vacuity: two kinds, three degrees; the round trip gives back the dict (here even with the
    same key order because the per-degree keys were the last ones) -/
example : (degreeToYang [("target_pch_out_db", .int (-20)),
      ("per_degree_pch_out_db", .obj [("east", .int (-19)), ("west", .int (-21))]),
      ("per_degree_psd_out_mWperGHz", .obj [("north", .int 1)])] >>= degreeToLegacy)
    = .ok [("target_pch_out_db", .int (-20)),
      ("per_degree_pch_out_db", .obj [("east", .int (-19)), ("west", .int (-21))]),
      ("per_degree_psd_out_mWperGHz", .obj [("north", .int 1)])] := by decide +kernel

/-- **every per-degree design band list survives, in order.** -/
theorem design_band_roundtrip (p : Dict) (T : Dict) (h0 : p.get? "per_degree_design_bands_targets" = none)
    (h1 : p.get? "per_degree_design_bands" = some (.obj T)) (hne : T ≠ []) (hnd : (T.map (·.1)).Nodup) :
    ∃ y q, designBandToYang p = .ok y ∧ designBandToLegacy y = .ok q ∧ ∀ k, q.get? k = p.get? k := by
  have hcol := collectBands_generated T []
  rw [Dict.foldl_set_of_nodup T [] hnd] at hcol
  refine ⟨(p.erase "per_degree_design_bands").set "per_degree_design_bands_targets"
    (.arr (T.map fun dv => .obj [("degree_uid", .str dv.1), ("design_bands", dv.2)])), ?q, ?toYang, ?toLegacy,
    fun k => ?_⟩
  case toYang => simp [designBandToYang, h1, J.truthy, hne]
  case toLegacy =>
    -- `simp` computes the way back; `rfl` takes its result for the witness `?q`
    simp [designBandToLegacy, J.truthy, hne, hcol]
    rfl
  by_cases k1 : k = "per_degree_design_bands"
  · simp [k1, h1]
  · by_cases k2 : k = "per_degree_design_bands_targets" <;> simp [k1, k2, h0]

/-- **the per-frequency loss list survives, entry by entry.**  `loss_coef: {value: [...],
frequency: [...]}` (lists of equal length, not empty) goes to `loss_coef_per_frequency` and back;
afterwards `loss_coef` holds the same two lists (keys in the order frequency, value) and every
other key of `params` is untouched. -/
theorem loss_coef_roundtrip (p lc : Dict) (fl vl : List J)
    (h0 : p.get? "loss_coef_per_frequency" = none)
    (h1 : p.get? "loss_coef" = some (.obj lc))
    (hv : lc.get? "value" = some (.arr vl)) (hf : lc.get? "frequency" = some (.arr fl))
    (hne : vl ≠ []) (hlen : fl.length = vl.length) :
    ∃ y q, lossCoefToYang p = .ok y ∧ lossCoefToLegacy y = .ok q ∧
      q.get? "loss_coef" = some (.obj [("frequency", .arr fl), ("value", .arr vl)]) ∧
      ∀ k, k ≠ "loss_coef" → q.get? k = p.get? k := by
  obtain ⟨c1, c2⟩ := column_zipDicts "frequency" "loss_coef_value" (by simp) fl vl hlen
  have hz : zipDicts "frequency" "loss_coef_value" fl vl ≠ [] := by
    simpa [zipDicts, ← List.length_eq_zero_iff, hlen] using hne
  refine ⟨(p.erase "loss_coef").set "loss_coef_per_frequency" (.arr (zipDicts "frequency" "loss_coef_value" fl vl)),
    ?q, ?toYang, ?toLegacy, ?_, fun k k1 => ?_⟩
  case toYang => simp [lossCoefToYang, h1, hv, hf, J.truthy, hne]
  case toLegacy =>
    -- `simp` computes the way back; `rfl` takes its result for the witness `?q`
    simp [lossCoefToLegacy, J.truthy, hz, c1, c2]
    rfl
  · simp
  by_cases k2 : k = "loss_coef_per_frequency" <;> simp [k1, k2, h0]

/-- **the Raman coefficient of a fibre element survives, entry by entry**, with its reference
frequency. -/
theorem raman_coef_roundtrip (p rc : Dict) (fl gl : List J) (rf : J)
    (h1 : p.get? "raman_coefficient" = some (.obj rc))
    (hg : rc.get? "g0" = some (.arr gl)) (hf : rc.get? "frequency_offset" = some (.arr fl))
    (hr : rc.get? "reference_frequency" = some rf)
    (hne : fl ≠ []) (hlen : fl.length = gl.length) :
    ∃ y q, ramanCoefToYang p = .ok y ∧ ramanCoefToLegacy y = .ok q ∧
      q.get? "raman_coefficient" = some (.obj [("reference_frequency", rf), ("g0", .arr gl), ("frequency_offset", .arr fl)]) ∧
      ∀ k, k ≠ "raman_coefficient" → q.get? k = p.get? k := by
  obtain ⟨c1, c2⟩ := column_zipDicts "frequency_offset" "g0" (by simp) fl gl hlen
  refine ⟨(p.erase "raman_coefficient").set "raman_coefficient" (.obj [("reference_frequency", rf),
    ("g0_per_frequency", .arr (zipDicts "frequency_offset" "g0" fl gl))]), ?q, ?toYang, ?toLegacy, ?_, fun k k1 => ?_⟩
  case toYang => simp [ramanCoefToYang, h1, pyIn, popD, hg, hf, J.truthy, hne, Dict.get, hr]
  case toLegacy =>
    -- `simp` computes the way back; `rfl` takes its result for the witness `?q`
    simp [ramanCoefToLegacy, pyIn, popD, c1, c2, hne, Dict.get]
    rfl
  · simp
  · simp [k1]

/-! ### each structural converter is idempotent -/

/-- `convert_degree` applied to its own output changes nothing -/
theorem degree_to_yang_idempotent (p y : Dict) (h : degreeToYang p = .ok y) : degreeToYang y = .ok y :=
  degreeToYang_absent (degreeToYang_out h)

/-- `convert_design_band` applied to its own output changes nothing -/
theorem design_band_to_yang_idempotent (p y : Dict) (h : designBandToYang p = .ok y) : designBandToYang y = .ok y :=
  designBandToYang_absent (designBandToYang_out h)

/-- `process_span_data` / `process_si_data` applied to their own output change nothing -/
theorem range_to_yang_idempotent (lk dk : String) (e y : Dict) (hne : lk ≠ dk) (h : rangeToYang lk dk e = .ok y) :
    rangeToYang lk dk y = .ok y :=
  rangeToYang_present (rangeToYang_out hne h)

/-- `convert_loss_coeff_list` applied to its own output changes nothing -/
theorem loss_coef_to_yang_idempotent (p y : Dict) (h : lossCoefToYang p = .ok y) : lossCoefToYang y = .ok y :=
  lossCoefToYang_absent (lossCoefToYang_out h)

/-- `convert_back_design_band` applied to its own output changes nothing -/
theorem design_band_to_legacy_idempotent (p y : Dict) (h : designBandToLegacy p = .ok y) :
    designBandToLegacy y = .ok y :=
  designBandToLegacy_absent (designBandToLegacy_out h)

/-- `convert_back_loss_coeff_list` applied to its own output changes nothing -/
theorem loss_coef_to_legacy_idempotent (p y : Dict) (h : lossCoefToLegacy p = .ok y) :
    lossCoefToLegacy y = .ok y :=
  lossCoefToLegacy_absent (lossCoefToLegacy_out h)

/-- the way back of one SI / Span entry (dict form to `[min, max, step]`) applied to its own output changes nothing -/
theorem range_to_legacy_idempotent (lk dk : String) (e y : Dict) (hne : lk ≠ dk) (h : rangeToLegacy lk dk e = .ok y) :
    rangeToLegacy lk dk y = .ok y :=
  rangeToLegacy_absent (rangeToLegacy_out h)

/-! ### SI / Span power ranges (finding F6) -/

/-- `[min, max, step]` → dict → `[min, max, step]` for one SI/Span entry: the list comes back, the
dict form is gone, every other key is untouched -/
theorem range_roundtrip (lk dk : String) (hne : lk ≠ dk) (e : Dict) (a b c : J)
    (h1 : e.get? lk = some (.arr [a, b, c])) (h2 : e.get? dk = none) :
    ∃ y e', rangeToYang lk dk e = .ok y ∧ rangeToLegacy lk dk y = .ok e' ∧
      e'.get? lk = some (.arr [a, b, c]) ∧ e'.get? dk = none ∧
      ∀ k, k ≠ lk → k ≠ dk → e'.get? k = e.get? k := by
  have hne' := Ne.symm hne
  refine ⟨(e.set dk (.obj [("min_value", a), ("max_value", b), ("step", c)])).erase lk, ?e', ?toYang, ?toLegacy, ?_, ?_,
    fun k k1 k2 => ?_⟩
  case toYang => simp [rangeToYang, h2, h1, rangeToDict, idx]
  case toLegacy =>
    -- `simp` computes the way back; `rfl` takes its result for the witness `?e'`
    simp [rangeToLegacy, hne', Dict.get]
    rfl
  · simp [hne]
  · simp
  · simp [k1, k2]

/-- a two-entry SI list (the shape of `eqpt_config_multiband.json`) -/
def f6Doc : Dict :=
  [("SI", .arr [.obj [("power_range_db", .arr [.int 0, .int 0, .int 1])],
                .obj [("type_variety", .str "lband"), ("power_range_db", .arr [.int (-2), .int 1, .int 1])]])]

/-- on `f6Doc` both SI entries get their range list back: the document returns unchanged (behaviour since the repair
f4882f89; `range_roundtrip_doc` is the statement for every library) -/
theorem delta_power_range_roundtrip_witness :
    (convertDeltaPowerRange f6Doc >>= convertBackDeltaPowerRange) = .ok f6Doc := by
  decide +kernel

/-- **F6 (repaired in /repo by f4882f89): the old converter fails the property** – after
`convert_delta_power_range` and the old `convert_back_delta_power_range` the SECOND SI entry still
has `power_range_dict_db` and no `power_range_db`. -/
theorem delta_power_range_fails_old :
    (convertDeltaPowerRange f6Doc >>= convertBackDeltaPowerRangeOld)
      = .ok [("SI", .arr [.obj [("power_range_db", .arr [.int 0, .int 0, .int 1])],
          .obj [("type_variety", .str "lband"),
                ("power_range_dict_db", .obj [("min_value", .int (-2)), ("max_value", .int 1), ("step", .int 1)])]])] := by
  decide +kernel

/-! ### Raman efficiency of the equipment library (finding F7, repaired by df307dac) -/

def f7Entry : Dict :=
  [("type_variety", .str "SSMF"),
   ("raman_efficiency", .obj [("cr", .arr [.int 0, .int 1]), ("frequency_offset", .arr [.int 0, .int 5])])]

/-- the legacy spelling the entry comes back with (pinned by the repo's expected files) -/
def f7Back : Dict :=
  [("type_variety", .str "SSMF"),
   ("raman_coefficient", .obj [("g0", .arr [.int 0, .int 1]), ("frequency_offset", .arr [.int 0, .int 5])])]

/-- through YANG and back the entry returns in that spelling -/
theorem raman_efficiency_back_spelling : (ramanEffToYang f7Entry >>= ramanEffToLegacy) = .ok f7Back := by
  decide +kernel

/-- **the returned spelling converts to the same YANG entry again** (a second round trip changes
nothing) and **the loader builds the same Raman coefficient from both spellings**: the same three
entries (`g0`, `frequency_offset`, and the library's default reference frequency), in another key
order -/
theorem raman_efficiency_roundtrip_witness :
    (ramanEffAcceptCoef f7Back >>= ramanEffToYang) = ramanEffToYang f7Entry ∧
    fiberRaman (.int 206) f7Back = some [("g0", .arr [.int 0, .int 1]), ("frequency_offset", .arr [.int 0, .int 5]),
      ("reference_frequency", .int 206)] ∧
    fiberRaman (.int 206) f7Entry = some [("frequency_offset", .arr [.int 0, .int 5]), ("g0", .arr [.int 0, .int 1]),
      ("reference_frequency", .int 206)] := by
  decide +kernel

/-- **F7 (repaired in /repo by df307dac): the old code fails the property** – the old converter does
not recognise the returned spelling (it stays `raman_coefficient`, which libyang refuses in an
equipment RamanFiber entry) and the old loader builds no Raman coefficient from it. -/
theorem raman_efficiency_fails_old :
    ramanEffToYang f7Back = .ok f7Back ∧ fiberRamanOld (.int 206) f7Back = none ∧
    (fiberRamanOld (.int 206) f7Entry).isSome = true := by
  decide +kernel

/-! ### whole documents: a second conversion changes nothing -/

/-- **`legacy_to_yang` is the identity on a YANG-normal document that one of its own runs produced.**
`yangNormal`, `noBareNull` and `noFlt` are decidable predicates on the output; the harness evaluates
them (op `c18.wf`) on the model's output for every document libyang accepts. -/
theorem to_yang_idempotent_of_normal (rp rp' : List (Nat × String)) (d y : J)
    (h : legacyToYang rp d = .ok y) (hn : yangNormal y = true) (hb : noBareNull y = true) (hf : noFlt y = true) :
    legacyToYang rp' y = .ok y := by
  simp only [legacyToYang, legacyToYangWith, Except.bind_eq_ok] at h
  obtain ⟨_, _, s, _, hconv⟩ := h
  obtain ⟨yd, rfl, hs⟩ := toYangStruct_fixpoint y hn
  -- `legacyToYang` unfolds to `toYangStructWith convertRamanEfficiency`, not to the name `toYangStruct` of `hs`
  simp only [toYangStruct] at hs
  simp [legacyToYang, legacyToYangWith, noneToEmpty_of_noBareNull _ hb, hs, convert_dict_idempotent rp rp' 2 _ _ hconv hf]

/-- **a second `legacy_to_yang` changes nothing**: for every well-formed document (decidable predicate `wfDoc`: the
conversion succeeds and its result is YANG-normal, without bare null and without binary float) of any of the five
kinds, converting the converted document again gives it back – whatever repr table the second run is given. -/
theorem to_yang_idempotent (rp rp' : List (Nat × String)) (d : J) (h : wfDoc rp d = true) :
    ∃ y, legacyToYang rp d = .ok y ∧ legacyToYang rp' y = .ok y := by
  unfold wfDoc at h
  split at h
  next y hy =>
    simp only [Bool.and_eq_true] at h
    exact ⟨y, hy, to_yang_idempotent_of_normal rp rp' d y hy h.1.1 h.1.2 h.2⟩
  next => cases h

/-- **`yang_to_legacy` changes nothing on a well-formed legacy document** (decidable predicate `wfLegacyDoc`:
legacy-normal, no `[null]`, numbers already numbers, accepted by the validation step) of any of the five kinds – in
particular on what `yang_to_legacy` returned, which the harness checks with op `c18.wf` on every run. -/
theorem to_legacy_idempotent (rp : List (Nat × String)) (l : J) (h : wfLegacyDoc rp l = true) :
    yangToLegacy rp l = .ok l := by
  simp only [wfLegacyDoc, legacyToYang, Bool.and_eq_true] at h
  obtain ⟨⟨⟨hn, hb⟩, hs⟩, hok⟩ := h
  obtain ⟨d, rfl, h1⟩ := toLegacyStruct_fixpoint l hn
  -- the validation step of `yang_to_legacy`: its result is not used, it only has to succeed
  cases hy : legacyToYangWith convertRamanEfficiency rp (J.obj d) with
  | error e => simp [hy, isOk] at hok
  | ok y => simp [yangToLegacy, yangToLegacyWith, hy, emptyToNone_of_noBoxedNull _ hb, backStable_id _ hs, h1]

/-- a topology with per-degree targets of two kinds, design bands, a per-frequency loss list, a
    Raman coefficient, a null and floats -/
def wfTopo : J := .obj [
  ("elements", .arr [
    .obj [("uid", .str "roadm A"), ("type", .str "Roadm"),
          ("params", .obj [("target_pch_out_db", .int (-20)),
            ("per_degree_pch_out_db", .obj [("fiber 1", .flt 13849554016582762496)]),
            ("per_degree_psd_out_mWperGHz", .obj [("trx A", .flt 4553247309662628348)]),
            ("per_degree_design_bands", .obj [("fiber 1", .arr [.obj [("f_min", .flt 4820469601659060224), ("f_max", .flt 4820623201659060224)]])])]),
          ("metadata", .obj [("location", .obj [("city", .null), ("region", .str "r"), ("latitude", .int 0), ("longitude", .flt 4609434218613702656)])])],
    .obj [("uid", .str "fiber 1"), ("type", .str "Fiber"), ("type_variety", .str "SSMF"),
          ("params", .obj [("length", .flt 4635329916471083008), ("length_units", .str "km"), ("con_in", .null),
            ("loss_coef", .obj [("value", .arr [.flt 4596734067664517857, .flt 4596373779694328218]), ("frequency", .arr [.flt 4820300001659060224, .flt 4820524001659060224])]),
            ("raman_coefficient", .obj [("g0", .arr [.int 0, .flt 4547007122018943789]), ("frequency_offset", .arr [.int 0, .flt 4796950003522207744]),
              ("reference_frequency", .flt 4820940001659060224)])])]]),
  ("connections", .arr [.obj [("from_node", .str "roadm A"), ("to_node", .str "fiber 1")]])]

/-- an equipment library with two SI entries, a RamanFiber with raman_efficiency, an openroadm Edfa and an unnamed Roadm -/
def wfEqpt : J := .obj [
  ("Edfa", .arr [.obj [("type_variety", .str "oa"), ("type_def", .str "openroadm"), ("gain_flatmax", .int 27),
     ("nf_coef", .arr [.flt 13783985880825014374, .flt 13812498263740769234, .flt 13826851596041169194, .flt 4630491361621426831])]]),
  ("RamanFiber", .arr [.obj [("type_variety", .str "SSMF"), ("dispersion", .flt 4535550195151214168),
     ("raman_efficiency", .obj [("cr", .arr [.int 0, .flt 4547007122018943789]), ("frequency_offset", .arr [.int 0, .flt 4796950003522207744])])]]),
  ("Roadm", .arr [.obj [("target_pch_out_db", .int (-20)), ("add_drop_osnr", .int 38)]]),
  ("SI", .arr [.obj [("f_min", .flt 4820469601659060224), ("power_range_db", .arr [.int 0, .int 0, .int 1])],
               .obj [("type_variety", .str "lband"), ("power_range_db", .arr [.int (-2), .int 1, .flt 4602678819172646912])]])]

/-- a service document with a route whose index is not the first member, null N/M and a null mode -/
def wfServ : J := .obj [
  ("path-request", .arr [.obj [("request-id", .str "0"), ("source", .str "trx A"), ("destination", .str "trx B"),
     ("bidirectional", .bool false),
     ("path-constraints", .obj [("te-bandwidth", .obj [("trx_type", .str "Voyager"), ("trx_mode", .null),
        ("effective-freq-slot", .arr [.obj [("N", .null), ("M", .null)]]), ("spacing", .flt 4766858406130614272),
        ("max-nb-of-channel", .int 80), ("output-power", .flt 4563448591618756055), ("path_bandwidth", .flt 4771362005757984768)])]),
     ("explicit-route-objects", .obj [("route-object-include-exclude", .arr [
        .obj [("explicit-route-usage", .str "route-include-ero"), ("index", .int 0),
              ("num-unnum-hop", .obj [("node-id", .str "roadm A"), ("hop-type", .str "LOOSE")])]])])]])]

def wfSpec : J := .obj [("spectrum", .arr [.obj [("f_min", .flt 4820472801659060224), ("f_max", .flt 4820527201659060224),
  ("baud_rate", .flt 4764189814503243776), ("slot_width", .flt 4766858406130614272), ("roll_off", .flt 4594572339843380019), ("tx_osnr", .int 40)]])]

def wfSim : J := .obj [("raman_params", .obj [("flag", .bool true), ("result_spatial_resolution", .flt 4666723172467343360),
    ("solver_spatial_resolution", .int 50)]),
  ("nli_params", .obj [("method", .str "gn_model_analytic"), ("dispersion_tolerance", .int 1),
    ("phase_shift_tolerance", .flt 4591870180066957722), ("computed_channels", .arr [.int 1, .int 18])])]

/-- the normal form of a legacy document: through YANG and back -/
def roundTrip (d : J) : PyR J := legacyToYang [] d >>= yangToLegacy []

/-- what the document becomes after YANG and back is a well-formed legacy document -/
def rtWf (d : J) : Bool :=
  match roundTrip d with
  | .ok l => wfLegacyDoc [] l
  | .error _ => false

/-- a second trip through YANG reproduces the first result exactly -/
def rtStable (d : J) : Bool :=
  match roundTrip d with
  | .ok l => (match roundTrip l with
    | .ok l2 => l2 == l
    | .error _ => false)
  | .error _ => false

/- The three facts about each witness document are evaluated together: the kernel then computes
   `legacyToYang [] d` and each trip through YANG once and reuses them. -/
theorem wfTopo_trip : wfDoc [] wfTopo = true ∧ rtWf wfTopo = true ∧ rtStable wfTopo = true := by decide +kernel
theorem wfEqpt_trip : wfDoc [] wfEqpt = true ∧ rtWf wfEqpt = true ∧ rtStable wfEqpt = true := by decide +kernel
theorem wfServ_trip : wfDoc [] wfServ = true ∧ rtWf wfServ = true ∧ rtStable wfServ = true := by decide +kernel
theorem wfSpec_trip : wfDoc [] wfSpec = true ∧ rtWf wfSpec = true ∧ rtStable wfSpec = true := by decide +kernel
theorem wfSim_trip : wfDoc [] wfSim = true ∧ rtWf wfSim = true ∧ rtStable wfSim = true := by decide +kernel

/-- non-vacuity of `to_yang_idempotent`: the example documents are well-formed -/
example : wfDoc [] wfTopo = true := wfTopo_trip.1
example : wfDoc [] wfEqpt = true := wfEqpt_trip.1
example : wfDoc [] wfServ = true := wfServ_trip.1
example : wfDoc [] wfSpec = true := wfSpec_trip.1
example : wfDoc [] wfSim = true := wfSim_trip.1

/-- non-vacuity of `to_legacy_idempotent`: the round-tripped example documents are well-formed -/
example : rtWf wfTopo = true := wfTopo_trip.2.1
example : rtWf wfEqpt = true := wfEqpt_trip.2.1
example : rtWf wfServ = true := wfServ_trip.2.1
example : rtWf wfSpec = true := wfSpec_trip.2.1
example : rtWf wfSim = true := wfSim_trip.2.1

/-- `roundtrip_structure` on the five witnesses: a second trip through YANG reproduces the normal form exactly (every
degree, band, frequency entry, slot, request in place).
PARTIAL – the general statement `∀ d, wfDoc d → roundTrip d = .ok l → roundTrip l = .ok l ∧ l ≈ d` (`≈`: same members
under every key, numbers within half a unit of the declared digit) is not proved.  Proved are the round trip of each
structure on one dict (`degree_roundtrip`, `design_band_roundtrip`, `loss_coef_roundtrip`, `raman_coef_roundtrip`,
`range_roundtrip`), its lifting to every entry of a document for three of them (the `_doc` theorems below), the value
bound (`fmt_error_bound`, `fmt_fixpoint`) and the two document-level idempotence theorems above.  Left out:
(1) composing the four topology converters, which act on different members of the same `params` (each must preserve
the others' well-formedness and respect equality of lookups); (2) the numeric leaves: that `convert_back` after
`convert_dict` yields the nearest double of the rounded decimal, also where a structural step moves the leaf to a
member with other declared digits (`value` ↔ `loss_coef_value`, degree name ↔ `per_degree_pch_out_db`). -/
theorem roundtrip_structure_partial :
    rtStable wfTopo = true ∧ rtStable wfEqpt = true ∧ rtStable wfServ = true ∧ rtStable wfSpec = true ∧
    rtStable wfSim = true :=
  ⟨wfTopo_trip.2.2, wfEqpt_trip.2.2, wfServ_trip.2.2, wfSpec_trip.2.2, wfSim_trip.2.2⟩

/-! ### the round trips of one dict lifted to every entry of a document -/

/-- **every SI / Span entry gets its range list back** (the general form of the F6 repair): for a
library whose `key` list (`SI` or `Span`) has any number of entries in list form, converting to the
dict form and back keeps the number and order of the entries, every member of every entry, and every
other member of the library. -/
theorem range_roundtrip_doc (key lk dk : String) (hne : lk ≠ dk) (doc : Dict) (l : List J)
    (hget : doc.get? key = some (.arr l))
    (hwf : ∀ ej ∈ l, ∃ (e : Dict) (a b c : J), ej = J.obj e ∧ e.get? lk = some (.arr [a, b, c]) ∧ e.get? dk = none) :
    ∃ y q l', forEachIn doc key (rangeToYang lk dk) = .ok y ∧ forEachIn y key (rangeToLegacy lk dk) = .ok q ∧
      q.get? key = some (.arr l') ∧ l'.length = l.length ∧ (∀ k, k ≠ key → q.get? k = doc.get? k) ∧
      ∀ (i : Nat) (e : Dict), l[i]? = some (J.obj e) → ∃ e' : Dict, l'[i]? = some (J.obj e') ∧ ∀ k, e'.get? k = e.get? k := by
  apply forEachIn_roundtrip doc key _ _ l (fun e e' => ∀ k, Dict.get? e' k = Dict.get? e k) hget
  intro ej hej
  obtain ⟨e, a, b, c, rfl, h1, h2⟩ := hwf ej hej
  obtain ⟨y, e', hy, he', g1, g2, g3⟩ := range_roundtrip lk dk hne e a b c h1 h2
  refine ⟨e, y, e', rfl, hy, he', ?_⟩
  intro k
  by_cases k1 : k = lk
  · rw [k1, g1, h1]
  · by_cases k2 : k = dk
    · rw [k2, g2, h2]
    · exact g3 k k1 k2

/-- **every per-degree target of every ROADM of a topology survives `convert_degree` followed by
`convert_back_degree`**: same number and order of elements, every member of every element, and in every
ROADM `params` the same value under every key (the three degree dicts entry for entry, in order). -/
theorem degree_roundtrip_doc (doc : Dict) (l : List J) (hget : doc.get? "elements" = some (.arr l))
    (hwf : ∀ ej ∈ l, ∃ e : Dict, ej = J.obj e ∧ e.has "type" = true ∧
      (e.get? "params" = none ∨ ∃ p : Dict, e.get? "params" = some (.obj p) ∧
        (e.get? "type" = some (.str "Roadm") → p.get? "per_degree_power_targets" = none ∧
          WfKind p "per_degree_pch_out_db" ∧ WfKind p "per_degree_psd_out_mWperGHz" ∧
          WfKind p "per_degree_psd_out_mWperSlotWidth"))) :
    ∃ y q l', convertDegree doc = .ok y ∧ convertBackDegree y = .ok q ∧
      q.get? "elements" = some (.arr l') ∧ l'.length = l.length ∧ (∀ k, k ≠ "elements" → q.get? k = doc.get? k) ∧
      ∀ (i : Nat) (e : Dict), l[i]? = some (J.obj e) →
        ∃ e' : Dict, l'[i]? = some (J.obj e') ∧ ElemRel (fun p p' => ∀ k, Dict.get? p' k = Dict.get? p k) e e' := by
  apply forEachIn_roundtrip doc "elements" _ _ l _ hget
  intro ej hej
  obtain ⟨e, rfl, ht, hp⟩ := hwf ej hej
  obtain ⟨y, q, h⟩ := onRoadmParams_roundtrip degreeToYang degreeToLegacy
    (Rp := fun p p' => ∀ k, Dict.get? p' k = Dict.get? p k) (hrefl := fun _ _ => rfl) e ht
    (hp.imp_right fun ⟨p, hp, hw⟩ => ⟨p, hp, fun hr =>
      let ⟨a, b, c, d⟩ := hw hr
      degree_roundtrip p a b c d⟩)
  exact ⟨e, y, q, rfl, h⟩

/-- params before and after the loss-list round trip: every other member equal; a per-frequency
`loss_coef` comes back with the same two lists (members in the order frequency, value); a scalar one
is untouched -/
def LossRel (p p' : Dict) : Prop :=
  (∀ k, k ≠ "loss_coef" → p'.get? k = p.get? k) ∧
  (∀ lc : Dict, p.get? "loss_coef" = some (.obj lc) → ∃ fl vl, lc.get? "frequency" = some (.arr fl) ∧
      lc.get? "value" = some (.arr vl) ∧ p'.get? "loss_coef" = some (.obj [("frequency", .arr fl), ("value", .arr vl)])) ∧
  ((∀ lc, p.get? "loss_coef" ≠ some (.obj lc)) → p'.get? "loss_coef" = p.get? "loss_coef")

/-- **every per-frequency loss list of every fibre of a topology survives** `convert_loss_coeff_list`
followed by `convert_back_loss_coeff_list` (document level, every element) -/
theorem loss_coef_roundtrip_doc (doc : Dict) (l : List J) (hget : doc.get? "elements" = some (.arr l))
    (hwf : ∀ ej ∈ l, ∃ e : Dict, ej = J.obj e ∧
      (e.get? "params" = none ∨ ∃ p : Dict, e.get? "params" = some (.obj p) ∧
        ((p.get? "loss_coef_per_frequency" = none ∧ ∀ lc, p.get? "loss_coef" ≠ some (.obj lc)) ∨
         (p.get? "loss_coef_per_frequency" = none ∧ ∃ (lc : Dict) (fl vl : List J), p.get? "loss_coef" = some (.obj lc) ∧
            lc.get? "value" = some (.arr vl) ∧ lc.get? "frequency" = some (.arr fl) ∧ vl ≠ [] ∧ fl.length = vl.length)))) :
    ∃ y q l', convertLossCoefList doc = .ok y ∧ convertBackLossCoefList y = .ok q ∧
      q.get? "elements" = some (.arr l') ∧ l'.length = l.length ∧ (∀ k, k ≠ "elements" → q.get? k = doc.get? k) ∧
      ∀ (i : Nat) (e : Dict), l[i]? = some (J.obj e) → ∃ e' : Dict, l'[i]? = some (J.obj e') ∧ ElemRel LossRel e e' := by
  apply forEachIn_roundtrip doc "elements" _ _ l _ hget
  intro ej hej
  obtain ⟨e, rfl, hp⟩ := hwf ej hej
  obtain ⟨y, q, h⟩ := withParams_roundtrip lossCoefToYang lossCoefToLegacy LossRel e
    (hp.imp_right fun ⟨p, hp, hw⟩ => ⟨p, hp, by
      rcases hw with ⟨h0, hno⟩ | ⟨h0, lc, fl, vl, hlc, hv, hf, hne, hlen⟩
      · exact ⟨p, p, lossCoefToYang_absent hno, lossCoefToLegacy_absent h0,
          fun _ _ => rfl, fun lc hlc => absurd hlc (hno lc), fun _ => rfl⟩
      · obtain ⟨y, q, a, b, c, d⟩ := loss_coef_roundtrip p lc fl vl h0 hlc hv hf hne hlen
        refine ⟨y, q, a, b, d, fun lc' hlc' => ?_, fun hno => absurd hlc (hno lc)⟩
        cases hlc.symm.trans hlc'
        exact ⟨fl, vl, hf, hv, c⟩⟩)
  exact ⟨e, y, q, rfl, h⟩

/-! ### alias expansion of the equipment library (finding F4) -/

/-- **every alias yields an entry with identical parameters whose reported name is that alias.**
For an entry with `other_name = names` (strings) and name `s`, the library receives, for each
`a ∈ names ++ [s]`, exactly the entry `(a, kwargs)` where `kwargs` is the declaring entry without
`other_name` and with `type_variety = a`; in particular all parameters other than the name agree. -/
theorem alias_entries (entry : Dict) (names : List String) (s : String)
    (ho : entry.get? "other_name" = some (.arr (names.map J.str)))
    (hs : entry.get? "type_variety" = some (.str s)) :
    ∃ out, expandAliases entry = .ok out ∧
      out.map (·.1) = names ++ [s] ∧
      ∀ nd ∈ out, nd.2.get? "type_variety" = some (.str nd.1) ∧ nd.2.get? "other_name" = none ∧
        ∀ k, k ≠ "type_variety" → k ≠ "other_name" → nd.2.get? k = entry.get? k := by
  have hnames : aliasNames entry = .ok (names ++ [s]) := by
    simp [aliasNames, hs, Dict.get_eq_ok.2 ho, strList_map_str]
  refine ⟨(names ++ [s]).map (fun n => (n, (entry.set "type_variety" (.str n)).erase "other_name")), ?_, ?_, ?_⟩
  · simp [expandAliases, ho, hnames]
  · simp [List.map_map, Function.comp_def]
  · intro nd hnd
    simp only [List.mem_map] at hnd
    obtain ⟨n, _, rfl⟩ := hnd
    exact ⟨by simp, by simp, fun k hk1 hk2 => by simp [hk1, hk2]⟩

/-- the corpus witness: `T0` with aliases `A`, `B` -/
def t0Entry : Dict :=
  [("type_variety", .str "T0"), ("other_name", .arr [.str "A", .str "B"]), ("mode", .arr [])]

/-- **F4 (repaired in /repo): the Transceiver code before the repair fails the property** – the
entries stored under `A`, `B`, `T0` reported the names `T0`, `A`, `B`. -/
theorem alias_fails_pre_fix :
    (expandAliasesF4 t0Entry).map (fun l => l.map (fun nd => (nd.1, nd.2.get? "type_variety")))
      = .ok [("A", some (.str "T0")), ("B", some (.str "A")), ("T0", some (.str "B"))] := by
  decide +kernel

example : (expandAliases t0Entry).map (fun l => l.map (fun nd => (nd.1, nd.2.get? "type_variety")))
      = .ok [("A", some (.str "A")), ("B", some (.str "B")), ("T0", some (.str "T0"))] := by
  decide +kernel

end Gnpy.Yang
