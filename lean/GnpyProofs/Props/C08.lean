import GnpyModel
import GnpyProofs.Lemmas.ChainList
import GnpyProofs.Lemmas.ChainReal
/- Property theorems for C08 — auto-design yields a complete line system.
   Model: GnpyModel/Chain.lean (lists of line elements between two endpoints); `amps_complete` is about `ampStep` of
   GnpyModel/Design.lean.  Numeric statements over ℝ.
   Helper lemmas: GnpyProofs/Lemmas/ChainList.lean (lists, graph), ChainReal.lean (losses over ℝ). -/
namespace Gnpy.Chain

/-! ### calculate_new_length -/

/-- a fibre shorter than `max_length` is left alone -/
theorem calcNewLength_short (fuel : Nat) (L lo hi target : ℝ) (h : L < hi) :
    calcNewLength fuel L lo hi target = (L, 1) := by
  simp [calcNewLength, calcWith, h]

/-- **calculate_new_length.** For every fibre length `L > 0` and bounds with `0 < target ≤ max_length`
(always the case when `min_length ≤ max_length`): at least one span, the spans add up to `L` exactly, and no span
is longer than `max_length`. -/
theorem calcNewLength_spec (fuel : Nat) (L lo hi target : ℝ) (hL : 0 < L) (_ht : 0 < target) (hth : target ≤ hi)
    (hf : L < ((fuel + 1 : Nat) : ℝ) * target) :
    1 ≤ (calcNewLength fuel L lo hi target).2 ∧
    ((calcNewLength fuel L lo hi target).2 : ℝ) * (calcNewLength fuel L lo hi target).1 = L ∧
    (calcNewLength fuel L lo hi target).1 ≤ hi := by
  obtain ⟨h1, h2⟩ := floorDiv_spec fuel L target hL.le hf
  refine calcWith_spec L lo hi target _ (fun hge => ⟨?_, h2⟩) hth
  -- `n2 ≥ 1` because `target ≤ hi ≤ L`
  by_contra hc
  rw [show floorDiv fuel L target = 0 by omega] at h2
  simp only [zero_add, Nat.cast_one, one_mul] at h2
  linarith

/-- a fibre longer than `max_length` is always split (at least two spans) -/
theorem calcNewLength_long (fuel : Nat) (L lo hi target : ℝ) (ht : 0 < target) (hth : target ≤ hi) (h : hi < L)
    (hf : L < ((fuel + 1 : Nat) : ℝ) * target) :
    2 ≤ (calcNewLength fuel L lo hi target).2 := by
  obtain ⟨s1, s2, s3⟩ := calcNewLength_spec fuel L lo hi target (by linarith) ht hth hf
  by_contra hc
  rw [show (calcNewLength fuel L lo hi target).2 = 1 by omega, Nat.cast_one, one_mul] at s2
  linarith

section
-- for every scalar type of the model, as in Lemmas/ChainList.lean
set_option linter.unusedSectionVars false
variable {α : Type} [Add α] [Sub α] [Mul α] [Div α] [Neg α] [NatCast α] [LT α] [LE α]
  [DecidableLT α] [DecidableLE α] [Transc α]

/-! ### add_missing_elements_in_network: adjacency, junctions, order -/

/-- **After `add_missing_elements_in_network` no fibre is directly followed by a fibre**, whatever the input line. -/
theorem no_adjacent_fibres (c : SplitCfg α) (ch : Chain α) : NoAdjFib (addMissingLine c ch) :=
  addInline_noAdj

/-- **ROADM–fibre junctions are amplified**: a chain leaving a ROADM does not begin with a fibre, a chain entering a
ROADM does not end with one.  (Junctions with a Fused element, an existing amplifier or a transceiver are left
alone, exactly as `add_roadm_booster` / `add_roadm_preamp` do: see `addBooster_eq_self`, `addPreamp_eq_self`.) -/
theorem roadm_fibre_junction_amplified (c : SplitCfg α) (ch : Chain α) :
    (ch.srcKind = .roadm → ∀ e, (addMissingLine c ch).head? = some e → e.isFiber = false) ∧
    (ch.dstKind = .roadm → ∀ e, (addMissingLine c ch).getLast? = some e → e.isFiber = false) := by
  constructor
  · intro hs e he
    unfold addMissingLine at he
    rw [addInline_head, hs] at he
    exact addBooster_head_not_fiber he
  · intro hd e he
    unfold addMissingLine at he
    rw [addInline_getLast, addBooster_getLast, hd] at he
    exact addPreamp_getLast_not_fiber he

/-- **The input survives in its order**: the line after splitting is a subsequence of the completed line (design only
inserts amplifiers). -/
theorem original_order_preserved (c : SplitCfg α) (ch : Chain α) :
    List.Sublist (splitLine c ch.line) (addMissingLine c ch) :=
  (addMissingLine_inserts c ch).sublist

/-- the endpoints of the chain are untouched — so which ROADMs/transceivers reach which is unchanged -/
theorem addMissing_endpoints (c : SplitCfg α) (ch : Chain α) :
    (addMissing c ch).src = ch.src ∧ (addMissing c ch).dst = ch.dst ∧
    (addMissing c ch).srcKind = ch.srcKind ∧ (addMissing c ch).dstKind = ch.dstKind := by
  simp [addMissing]

/-- splitting touches fibres only: every other element stays in place as it is, a fibre is replaced in place by
fibres -/
theorem splitLine_kinds (c : SplitCfg α) (l : List (Elem α)) :
    splitLine c l = l.flatMap (splitElem c) ∧
    (∀ e, e.isFiber = false → splitElem c e = [e]) ∧
    (∀ u p, ∀ x ∈ splitElem c (.fiber u p), x.isFiber = true) := by
  refine ⟨rfl, fun e he => ?_, fun u p x hx => ?_⟩
  · cases e with
    | fiber _ _ => cases he
    | _ => rfl
  · rw [splitElem, splitFiber] at hx
    split_ifs at hx
    · cases List.mem_singleton.1 hx
      rfl
    · obtain ⟨k, _, rfl⟩ := List.mem_map.1 hx
      rfl

/-! ### Edfa or Multiband_amplifier: the kind of the inserted amplifiers

"Amplifier" in `no_adjacent_fibres`, `roadm_fibre_junction_amplified`, `original_order_preserved`, `addMissing_fixpoint`
(Props/C17.lean) means Edfa OR Multiband_amplifier: both are the constructor `Elem.edfa` (flag `multi`), the inserted
element has the same uid either way, and none of those statements depends on the flag.  This section says what the
flag is. -/

/-- **on a line without user amplifiers every inserted amplifier — booster, in-line, preamp — is a Multiband_amplifier iff
the line leaves a ROADM with more than one design band**, whatever the shape of the line and whatever the order in
which the ROADMs are visited (repaired `_oms_needs_multiband`). -/
theorem multiband_kinds_follow_design_bands (c : SplitCfg α) (ch : Chain α) (hno : NoAmp (splitLine c ch.line)) :
    ∀ e ∈ addMissingLine c ch, e.isEdfa = true →
      e.isMulti = (ch.srcKind == .roadm && decide (1 < ch.srcBands)) := by
  obtain ⟨hm, hs⟩ := hasMulti_hasSingle_of_noAmp hno
  intro e he hamp
  rcases (addMissingLine_inserts c ch).mem e he with h | h
  · rw [hno e h] at hamp; cases hamp
  · rw [h.2, omsKind, hm, hs]; rfl

/-- user amplifiers on the line decide first: a Multiband_amplifier anywhere on the OMS makes every inserted amplifier a
Multiband_amplifier, a (single-band) Edfa makes them Edfas — so design never creates a mixed OMS by itself -/
theorem inserted_kind_follows_user_amplifiers (sk : EndKind) (bands : Nat) (l : List (Elem α)) :
    (hasMulti l = true → omsKind sk bands l = true) ∧
    (hasMulti l = false → hasSingle l = true → omsKind sk bands l = false) := by
  constructor
  · intro h; simp [omsKind, h]
  · intro h1 h2; simp [omsKind, h1, h2]

/-- **Old code, defect (multiband-type-decision, repaired):** with the DESTINATION ROADM visited first its preamp was
decided before anything else was on the line, and `add_roadm_preamp` did not look at design bands, so it was an
Edfa; the booster then followed the preamp: an all-Edfa line left a ROADM with two design bands
(`set_per_degree_design_band` rejected it). The kind depended on the order of the ROADMs in the document. -/
theorem multiband_dst_first_fails_old (f g : FiberP ℝ) :
    endAmpKindsOld .roadm .roadm 2 true [Elem.fiber "a" f, Elem.fiber "b" g] = (false, false) ∧
    endAmpKindsOld .roadm .roadm 2 false [Elem.fiber "a" f, Elem.fiber "b" g] = (true, true) ∧
    kindsRaise 2 (addInlineOld (addBooster "R1" .roadm false (addPreamp "R0" .roadm false
      [Elem.fiber "a" f, Elem.fiber "b" g]))) = true ∧
    omsKind .roadm 2 [Elem.fiber "a" f, Elem.fiber "b" g] = true := by
  simp [endAmpKindsOld, preampRuleOld, boosterRuleOld, preampInserted, boosterInserted, hasMulti, hasSingle,
    Elem.isMulti, Elem.isSingle, newAmp, kindsRaise, addInlineOld, addBooster, addPreamp, omsKind]

/-- **Old code, defect (multiband-type-decision, repaired):** a line ending `… Fiber – Fused – ROADM` gets no preamp;
with two design bands the booster was a Multiband_amplifier, but the in-line amplifier only looked downstream, found
no amplifier and became an Edfa: a mixed OMS, which `check_oms_single_type` rejects. The repaired completion of the
same line is all-Multiband. -/
theorem multiband_fused_end_mixed_fails_old (f g : FiberP ℝ) :
    let l : List (Elem ℝ) := [.fiber "a" f, .fiber "b" g, .fused "x" 1]
    let k := endAmpKindsOld .roadm .roadm 2 false l
    k = (true, true) ∧
    hasMulti (addInlineOld (addBooster "R0" .roadm k.1 (addPreamp "R1" .roadm k.2 l))) = true ∧
    hasSingle (addInlineOld (addBooster "R0" .roadm k.1 (addPreamp "R1" .roadm k.2 l))) = true ∧
    hasSingle (addInline true (addBooster "R0" .roadm true (addPreamp "R1" .roadm true l))) = false := by
  simp [endAmpKindsOld, preampRuleOld, boosterRuleOld, boosterInserted, hasMulti, hasSingle,
    Elem.isMulti, Elem.isSingle, newAmp, addInlineOld, addInline, addBooster, addPreamp]

/-! ### the graph stays a set of one-in/one-out chains with unchanged reachability -/

/-- **Every line element has exactly one predecessor and one successor** in the graph of a set of chains, as soon as
the names in its own chain are distinct and no other chain mentions it (for the completed chains that is what
`names_unique_partial` and the monitor establish). Holds for any set of chains, in particular for
`chs.map (completeChain …)`. -/
theorem one_in_one_out (pre post : List (Chain α)) (ch : Chain α) (u : String)
    (hn : (chainNodes ch).Nodup) (hu : u ∈ ch.line.map Elem.uid)
    (hother : ∀ c ∈ pre ++ post, u ∉ chainNodes c) :
    inDeg (toGraph (pre ++ ch :: post)) u = 1 ∧ outDeg (toGraph (pre ++ ch :: post)) u = 1 := by
  have hpre := deg_zero_of_absent pre u fun c hc => hother c (List.mem_append_left _ hc)
  have hpost := deg_zero_of_absent post u fun c hc => hother c (List.mem_append_right _ hc)
  rw [chainNodes, List.nodup_cons] at hn
  rw [toGraph_append, toGraph_cons, inDeg_append, inDeg_append, outDeg_append, outDeg_append,
    hpre.1, hpre.2, hpost.1, hpost.2, outDeg_chainEdges, inDeg_chainEdges,
    List.count_eq_one_of_mem hn.2 (List.mem_append_left _ hu),
    List.count_eq_one_of_mem (List.nodup_cons.2 ⟨fun h => hn.1 (List.mem_append_left _ h), hn.2.of_append_left⟩)
      (List.mem_cons_of_mem _ hu)]
  exact ⟨rfl, rfl⟩

/-- **Degrees of the endpoints**: a ROADM/transceiver that is not used as a line element has as many outgoing edges
as chains leave it and as many incoming edges as chains end at it -/
theorem endpoints_degree (chs : List (Chain α)) (r : String)
    (hn : ∀ c ∈ chs, (chainNodes c).Nodup) (hr : ∀ c ∈ chs, r ∉ c.line.map Elem.uid) :
    outDeg (toGraph chs) r = (chs.filter (fun c => c.src == r)).length ∧
    inDeg (toGraph chs) r = (chs.filter (fun c => c.dst == r)).length := by
  induction chs with
  | nil => exact ⟨rfl, rfl⟩
  | cons c rest ih =>
    obtain ⟨io, ii⟩ := ih (fun x hx => hn x (List.mem_cons_of_mem _ hx)) (fun x hx => hr x (List.mem_cons_of_mem _ hx))
    have hrc := List.count_eq_zero_of_not_mem (hr c List.mem_cons_self)
    rw [toGraph_cons, outDeg_append, inDeg_append, io, ii, outDeg_chainEdges, inDeg_chainEdges,
      List.count_cons, List.count_append, List.count_singleton, hrc, List.filter_cons, List.filter_cons]
    -- each side is an `if` on whether `c` leaves (ends at) `r`
    constructor <;> split <;> simp [Nat.add_comm]

/-- every chain is a path of the graph from its source to its destination -/
theorem chain_is_path (chs : List (Chain α)) (ch : Chain α) (h : ch ∈ chs) :
    ∀ e ∈ chainEdges ch, e ∈ toGraph chs :=
  fun _ he => List.mem_flatMap.2 ⟨ch, h, he⟩

/-- **Reachability is unchanged**: completing the lines (split, amplifier insertion, connector losses, padding) leaves
the set of ROADM/transceiver pairs that are joined by a chain exactly as it was — and by `chain_is_path` every such
pair is still joined by a path in the graph of the completed chains. -/
theorem reachability_unchanged (c : SplitCfg α) (dIn dOut eol padding : α) (chs : List (Chain α)) :
    endpointPairs (chs.map (completeChain c dIn dOut eol padding)) = endpointPairs chs := by
  simp [endpointPairs, completeChain, Function.comp_def]

end

/-! ### split_fiber: equal spans with the original length and fibre loss -/

/-- all spans produced from one fibre are fibres of one and the same length, with the original loss coefficient -/
theorem split_spans_equal (c : SplitCfg ℝ) (uid : String) (p : FiberP ℝ) :
    ∀ x ∈ splitFiber c uid p, ∃ v q, x = .fiber v q ∧ q.lossCoef = p.lossCoef ∧
      q.length = (if (calcNewLength c.fuel p.length c.lo c.hi c.target).2 = 1 then p.length
                  else (calcNewLength c.fuel p.length c.lo c.hi c.target).1) := by
  intro x hx
  rw [splitFiber] at hx
  split_ifs at hx ⊢
  · cases List.mem_singleton.1 hx
    exact ⟨uid, p, rfl, rfl, rfl⟩
  · obtain ⟨k, _, rfl⟩ := List.mem_map.1 hx
    exact ⟨_, _, rfl, rfl, rfl⟩

/-- **The spans of a split fibre together have the original length and the original fibre loss.** -/
theorem split_preserves_length_and_loss (c : SplitCfg ℝ) (uid : String) (p : FiberP ℝ)
    (hL : 0 < p.length) (ht : 0 < c.target) (hth : c.target ≤ c.hi)
    (hf : p.length < ((c.fuel + 1 : Nat) : ℝ) * c.target) :
    ((splitFiber c uid p).map Elem.length).sum = p.length ∧
    ((splitFiber c uid p).map Elem.glass).sum = p.glassLoss := by
  obtain ⟨_, s2, _⟩ := calcNewLength_spec c.fuel p.length c.lo c.hi c.target hL ht hth hf
  rw [splitFiber]
  split_ifs
  · simp [Elem.length, Elem.glass]
  · generalize calcNewLength c.fuel p.length c.lo c.hi c.target = r at s2 ⊢
    simp only [List.map_map, Function.comp_def, Elem.length, Elem.glass, FiberP.glassLoss, List.map_const',
      List.length_range, List.sum_replicate, nsmul_eq_mul]
    exact ⟨s2, by rw [← s2]; ring⟩

/-- **The spans of a split fibre together have the original total loss**: fibre attenuation + input attenuation +
lumped losses of the spans add up to those of the original fibre — `att_in` stays on the first span only and every
lumped loss (position strictly inside the fibre) lands in exactly one span (repaired `_span_params`; connector losses
are per-span attributes and are not part of this sum). -/
theorem split_preserves_total_loss (c : SplitCfg ℝ) (uid : String) (p : FiberP ℝ)
    (hL : 0 < p.length) (ht : 0 < c.target) (hth : c.target ≤ c.hi)
    (hf : p.length < ((c.fuel + 1 : Nat) : ℝ) * c.target)
    (hlumps : ∀ l ∈ p.lumps, 0 ≤ l.1 ∧ l.1 < p.length * milli) :
    ((splitFiber c uid p).map Elem.body).sum = p.glassLoss + p.attIn + p.lumped := by
  obtain ⟨s1, s2, _⟩ := calcNewLength_spec c.fuel p.length c.lo c.hi c.target hL ht hth hf
  rw [splitFiber]
  split_ifs
  · simp [Elem.body]
  · generalize calcNewLength c.fuel p.length c.lo c.hi c.target = r at s1 s2 ⊢
    have hs : 0 ≤ r.1 * milli :=
      mul_nonneg (nonneg_of_mul_nonneg_right (s2 ▸ hL.le) (Nat.cast_pos.2 s1)) (by simp only [milli]; positivity)
    simp only [List.map_map, Function.comp_def, Elem.body, FiberP.glassLoss, FiberP.lumped, spanLumps_lumped]
    rw [List.sum_map_add, List.sum_map_add, Nat.cast_zero, sum_first_only s1,
      lossInSpan_total p.lumps r.2 (r.1 * milli) hs (by rwa [← mul_assoc, s2])]
    simp only [List.map_const', List.length_range, List.sum_replicate, sumLeft_eq_sum, nsmul_eq_mul]
    rw [← s2]; ring

/-! ### add_fiber_padding -/

/-- **Padding is reached.** A run of spliced Fiber/Fused elements whose first and last elements are fibres (the last
one not a RamanFiber) leaves `add_fiber_padding` with loss `max(padding, loss before)`; in particular ≥ padding. -/
theorem padding_reached (padding : ℝ) (r : List (Elem ℝ)) (u : String) (p : FiberP ℝ) (v : String) (q : FiberP ℝ)
    (t : List (Elem ℝ)) (hr : r = .fiber v q :: t) (hl : r.getLast? = some (.fiber u p)) (hnr : p.raman = false) :
    runLoss (padRun padding r) = max padding (runLoss r) ∧ padding ≤ runLoss (padRun padding r) := by
  have h := (padRun_spec padding hl hnr).loss
  have key : runLoss (padRun padding r) = max padding (runLoss r) := by
    rw [h]; subst hr
    split_ifs with hc
    · exact (max_eq_left hc.1.le).symm
    · exact (max_eq_right (not_lt.1 fun h => hc ⟨h, rfl⟩)).symm
  exact ⟨key, key ▸ le_max_left _ _⟩

/-- after padding, the cached `design_span_loss` of the run's last fibre IS the loss of the run (whatever `att_in` the
first fibre carried: repaired behaviour, the unrepaired code over-counted a user `att_in`) — so the gain computation
of C09, which reads this cache, works on the true span loss. -/
theorem padRun_dsl (padding : ℝ) (r : List (Elem ℝ)) (u : String) (p : FiberP ℝ) (v : String) (q : FiberP ℝ)
    (t : List (Elem ℝ)) (hr : r = .fiber v q :: t) (hl : r.getLast? = some (.fiber u p)) (hnr : p.raman = false) :
    ∃ p', (padRun padding r).getLast? = some (.fiber u p') ∧ p'.raman = false ∧
      p'.dsl = some (runLoss (padRun padding r)) :=
  (padRun_spec padding hl hnr).last

/-- **Current code, defect:** a span that begins or ends with a Fused element is never padded — `[Fused 1 dB,
Fiber 2 dB]` and `[Fiber 2 dB, Fused 1 dB]` keep 3 dB under a padding of 10 dB. -/
theorem padRun_fused_edge_unpadded_fails_current :
    ∃ (padding : ℝ) (r1 r2 : List (Elem ℝ)),
      r1.head?.map Elem.isFused = some true ∧ r2.getLast?.map Elem.isFused = some true ∧
      runLoss (padRun padding r1) = 3 ∧ runLoss (padRun padding r2) = 3 ∧ (3:ℝ) < padding := by
  let p : FiberP ℝ := { length := 10, lossCoef := 0.2, conIn := some 0, conOut := some 0, attIn := 0,
                        lumps := [], raman := false, ramanGain := none, dsl := none }
  have hloss : (Elem.fiber "f" p).loss - (Elem.fiber "f" p).ramanGain = 2 := by
    norm_num [p, Elem.loss, FiberP.loss, FiberP.lumped, sumLeft_eq_sum, Elem.ramanGain]
  refine ⟨10, [.fused "x" 1, .fiber "f" p], [.fiber "f" p, .fused "x" 1], rfl, rfl, ?_, ?_, by norm_num⟩
  -- a run is padded only if its FIRST element is a fibre …
  · rw [(padRun_spec 10 (u := "f") (p := p) rfl rfl).loss, if_neg (fun h => nomatch h.2), runLoss_cons, runLoss_cons, hloss]
    norm_num [runLoss_eq, Elem.loss, Elem.ramanGain]
  -- … and is looked at only if its LAST element is one
  · rw [padRun_of_not_fiber_last 10 (fun ⟨_, _, h, _⟩ => nomatch h), runLoss_cons, hloss]
    norm_num [runLoss_eq, Elem.loss, Elem.ramanGain]

/-- padding a padded run again changes nothing (needed for redesign, C17) -/
theorem padRun_idempotent (padding : ℝ) (r : List (Elem ℝ)) (u : String) (p : FiberP ℝ) (v : String) (q : FiberP ℝ)
    (t : List (Elem ℝ)) (hr : r = .fiber v q :: t) (hl : r.getLast? = some (.fiber u p)) (hnr : p.raman = false) :
    padRun padding (padRun padding r) = padRun padding r :=
  padRun_idempotent_all padding r

/-! ### the generated names -/

/-- names (partial): the uids of the completed line are the uids before inline amplification plus the generated
`Edfa_<fibre uid>` names; hence unique as soon as those are pairwise distinct.
Full statement (not proved): if the input uids are unique and none of them has one of the generated shapes
`<uid>_(k/n)`, `Edfa_<uid>`, `Edfa_booster_<roadm>_to_<uid>`, `Edfa_preamp_<roadm>_from_<uid>`, then the uids of the
designed network are unique. What is missing is the injectivity of the string formatting. -/
theorem names_unique_partial {α : Type} [Add α] [Sub α] [Mul α] [Div α] [Neg α] [NatCast α] [LT α] [LE α]
    [DecidableLT α] [DecidableLE α] [Transc α] (c : SplitCfg α) (ch : Chain α) :
    let m := omsKind ch.srcKind ch.srcBands (splitLine c ch.line)
    let mid := addBooster ch.src ch.srcKind m (addPreamp ch.dst ch.dstKind m (splitLine c ch.line))
    (mid.map Elem.uid ++ inlineNames mid).Nodup → ((addMissingLine c ch).map Elem.uid).Nodup := by
  intro m mid h
  exact (addInline_uids m mid).nodup_iff.mpr h

/-! ### set_one_amplifier is total -/

/-- **Every amplifier ends up with a gain, an output VOA and — in power mode — a power offset and target**: the
operating point `set_one_amplifier` computes is total (gain, `out_voa`, `in_voa` are plain numbers for every
input), and `delta_p`, `target_pch_out_dbm` are set exactly in power mode.  (That the type_variety is a library
model is property C10.)  Stated for whatever `rint` the reals are given: the round-half-even instance of
Lemmas/Design.lean is not needed, and this file does not import it. -/
theorem amps_complete [Rint ℝ] (c : Cfg ℝ) (pref prefTotal pd pv : ℝ) (a : AmpIn ℝ) :
    (c.powerMode = true → (ampStep c pref prefTotal pd pv a).deltaP.isSome = true ∧
                          (ampStep c pref prefTotal pd pv a).targetPch.isSome = true) ∧
    (c.powerMode = false → (ampStep c pref prefTotal pd pv a).deltaP = none ∧
                           (ampStep c pref prefTotal pd pv a).targetPch = none) := by
  constructor
  · intro h
    cases hd : a.user.deltaP <;> simp [ampStep, h, hd]
  · intro h
    simp [ampStep, h]

/-! ### non-vacuity -/

/-- the hypotheses of `calcNewLength_spec` / `calcNewLength_long` hold for the shipped configuration
(bounds 50–150 km, target 90 km) and a 300 km fibre, which becomes 3 × 100 km -/
example : calcNewLength 5 (300000:ℝ) 50000 150000 90000 = (100000, 3) := by
  norm_num [calcNewLength, calcWith, floorDiv, floorDivAux, inBounds]

example : (0:ℝ) < 300000 ∧ (0:ℝ) < 90000 ∧ (90000:ℝ) ≤ 150000 ∧ (300000:ℝ) < ((5 + 1 : Nat) : ℝ) * 90000 := by
  norm_num

/-- the hypotheses of `padding_reached` / `padRun_dsl` / `padRun_idempotent` are satisfiable: Fiber–Fused–Fiber -/
example : ∃ (r : List (Elem ℝ)) (u : String) (p : FiberP ℝ) (v : String) (q : FiberP ℝ) (t : List (Elem ℝ)),
    r = .fiber v q :: t ∧ r.getLast? = some (.fiber u p) ∧ p.raman = false ∧ runLoss r < 10 := by
  let f : FiberP ℝ := { length := 10, lossCoef := 0.2, conIn := some 0, conOut := some 0, attIn := 1.5,
                        lumps := [], raman := false, ramanGain := none, dsl := none }
  refine ⟨[.fiber "a" f, .fused "x" 1, .fiber "b" f], "b", f, "a", f, _, rfl, by simp, rfl, ?_⟩
  simp only [runLoss_eq]; norm_num [f, Elem.loss, FiberP.loss, FiberP.lumped, sumLeft_eq_sum, Elem.ramanGain]

end Gnpy.Chain
