import GnpyModel
import GnpyProofs.Lemmas.Route
import GnpyProofs.Lemmas.Ispart
import GnpyProofs.Lemmas.Except
/- Property theorems for C11 — every computed route is a real, loop-free, constraint-respecting shortest path.
   Model: GnpyModel/Route.lean.  networkx is not modelled: the theorems establish that the ORACLE (`bestRoute`,
   `decideRoute`) and the CHECKER (`checkRoute`) the harness runs against the implementation mean exactly what the
   property says, for every finite weighted digraph, every source/destination and every include list.
   The enumeration theorems (`simplePaths_sound`, `simplePaths_complete`, `simplePaths_iff`, `validPaths_iff`) stand in
   Lemmas/Route.lean, the reverse path (`reverse_sites`, `reverse_adjacent`) in Lemmas/Disjoint.lean. -/
namespace Gnpy.Route

/-! ### walks, simple paths, routes -/

/-- **the checker decides the route predicate**: the Boolean run on the implementation's path is `true` exactly when
the path starts at the source, ends at the destination, follows existing directed links, visits no element twice and
crosses the include list in order -/
theorem checkRoute_iff (g : Graph) (s t : V) (inc p : List V) :
    checkRoute g s t inc p = true ↔ IsRoute g s t inc p := by
  simp only [checkRoute, IsRoute, Bool.and_eq_true, beq_iff_eq, isWalkB_iff, nodupB_iff, List.isSublist_iff_sublist,
    and_assoc]

/-! ### weights: the oracle `bestRoute` -/

/-- **the oracle's answer is a route** -/
theorem bestRoute_valid (g : Graph) (hg : g.WF) (s t : V) (inc p : List V) (h : bestRoute g s t inc = some p) :
    IsRoute g s t inc p :=
  (validPaths_iff g hg s t inc p).1 (argmin_mem_le h).1

/-- **the oracle's answer is lightest**: no route crossing the include list weighs less -/
theorem bestRoute_minimal (g : Graph) (hg : g.WF) (s t : V) (inc p : List V) (h : bestRoute g s t inc = some p) :
    ∀ q, IsRoute g s t inc q → pathWeight g p ≤ pathWeight g q :=
  fun q hq => (argmin_mem_le h).2 q ((validPaths_iff g hg s t inc q).2 hq)

/-- **the oracle answers `none` exactly when no route exists** -/
theorem bestRoute_none_iff (g : Graph) (hg : g.WF) (s t : V) (inc : List V) :
    bestRoute g s t inc = none ↔ ¬ ∃ q, IsRoute g s t inc q := by
  unfold bestRoute
  rw [argmin_none_iff, List.eq_nil_iff_forall_not_mem, not_exists]
  exact forall_congr' fun q => not_congr (validPaths_iff g hg s t inc q)

/-- `bestRoute_none_iff`, `bestRoute_valid` and `bestRoute_minimal` in the shape of the conclusions of `decide_*` -/
theorem bestRoute_of_exists {g : Graph} (hg : g.WF) {s t : V} {inc : List V} (hex : ∃ q, IsRoute g s t inc q) :
    ∃ p, bestRoute g s t inc = some p ∧ IsRoute g s t inc p ∧
      ∀ q, IsRoute g s t inc q → pathWeight g p ≤ pathWeight g q := by
  obtain ⟨p, hp⟩ := Option.ne_none_iff_exists'.1 (mt (bestRoute_none_iff g hg s t inc).1 (not_not_intro hex))
  exact ⟨p, hp, bestRoute_valid g hg s t inc p hp, bestRoute_minimal g hg s t inc p hp⟩

/-- **weight-minimal = length-minimal.**  The code minimises `weight` (fibre metres on fibre edges, 0.01 on every other
edge).  When every fibre length is a multiple of 1 km, every other edge carries at most one 0.01 unit and paths have
fewer than 10⁵ hops, a path of minimal weight has minimal total fibre length: the pseudo-weights cannot change which
fibre length wins.  (The generators respect the hypothesis, so the oracle never demands more than the property.) -/
theorem weight_min_is_length_min (g : Graph) (hkm : ∀ u v, 1000 ∣ g.len u v) (hps : ∀ u v, g.pseudo u v ≤ 1)
    (p q : List V) (hq : q.length ≤ 100000) (h : pathWeight g p ≤ pathWeight g q) :
    pathLen g p ≤ pathLen g q := by
  rw [pathWeight_eq, pathWeight_eq] at h
  obtain ⟨a, ha⟩ : 1000 ∣ pathLen g p := pathSum_dvd hkm p
  obtain ⟨b, hb⟩ : 1000 ∣ pathLen g q := pathSum_dvd hkm q
  have hpq : pathPseudo g q ≤ q.length - 1 := pathSum_le_length hps q
  omega

/-- **C11, optimality**: the oracle's route has minimal total fibre length among all routes crossing the include list -/
theorem bestRoute_min_length (g : Graph) (hg : g.WF) (hkm : ∀ u v, 1000 ∣ g.len u v) (hps : ∀ u v, g.pseudo u v ≤ 1)
    (hn : g.n < 100000) (s t : V) (inc p : List V) (h : bestRoute g s t inc = some p) :
    ∀ q, IsRoute g s t inc q → pathLen g p ≤ pathLen g q := by
  intro q hq
  have hl := simple_length_le hg hq.walk hq.nodup
  exact weight_min_is_length_min g hkm hps p q (by omega) (bestRoute_minimal g hg s t inc p h q hq)

/-- any two routes of minimal weight have the same fibre length: whatever tie-break the library applies, the fibre
length the harness compares is determined -/
theorem min_length_unique (g : Graph) (hkm : ∀ u v, 1000 ∣ g.len u v) (hps : ∀ u v, g.pseudo u v ≤ 1)
    (p q : List V) (hp : p.length ≤ 100000) (hq : q.length ≤ 100000) (h : pathWeight g p = pathWeight g q) :
    pathLen g p = pathLen g q :=
  Nat.le_antisymm (weight_min_is_length_min g hkm hps p q hq (Nat.le_of_eq h))
    (weight_min_is_length_min g hkm hps q p hp (Nat.le_of_eq h.symm))

/-! ### the decision wrapper of `compute_constrained_path` -/

/-- **C11, satisfiable constraint**: when a route crossing the include list exists (and the list is not an explicit
route), the decision is such a route, of minimal weight -/
theorem decide_constrained (g : Graph) (hg : g.WF) (s t : V) (inc : List V) (strict : Bool)
    (hex : ∃ q, IsRoute g s t inc q) :
    ∃ p, decideRoute g s t inc strict none = .constrained p ∧ IsRoute g s t inc p ∧
      ∀ q, IsRoute g s t inc q → pathWeight g p ≤ pathWeight g q := by
  obtain ⟨p0, hp0, _⟩ := bestRoute_of_exists hg (hex.imp fun _ => IsRoute.toNil)
  obtain ⟨p, hp, hv⟩ := bestRoute_of_exists hg hex
  exact ⟨p, by simp [decideRoute, hp0, hp], hv⟩

/-- **C11, STRICT**: a STRICT include list that no route can honour blocks the request with
`NO_PATH_WITH_CONSTRAINT` (the destination being reachable at all) -/
theorem decide_strict_blocked (g : Graph) (hg : g.WF) (s t : V) (inc : List V)
    (hreach : ∃ q, IsRoute g s t [] q) (hno : ¬ ∃ q, IsRoute g s t inc q) :
    decideRoute g s t inc true none = .noPathWithConstraint := by
  obtain ⟨p0, hp0, _⟩ := bestRoute_of_exists hg hreach
  simp [decideRoute, hp0, (bestRoute_none_iff g hg s t inc).2 hno]

/-- **C11, LOOSE**: when only LOOSE hops cannot be honoured they are dropped and the decision is the unconstrained
shortest path -/
theorem decide_loose_dropped (g : Graph) (hg : g.WF) (s t : V) (inc : List V)
    (hreach : ∃ q, IsRoute g s t [] q) (hno : ¬ ∃ q, IsRoute g s t inc q) :
    ∃ p, decideRoute g s t inc false none = .unconstrained p ∧ IsRoute g s t [] p ∧
      ∀ q, IsRoute g s t [] q → pathWeight g p ≤ pathWeight g q := by
  obtain ⟨p0, hp0, hv⟩ := bestRoute_of_exists hg hreach
  exact ⟨p0, by simp [decideRoute, hp0, (bestRoute_none_iff g hg s t inc).2 hno], hv⟩

/-- **C11, unreachable destination**: blocked with `NO_PATH`, whatever the include list -/
theorem decide_noPath (g : Graph) (hg : g.WF) (s t : V) (inc : List V) (strict : Bool)
    (hno : ¬ ∃ q, IsRoute g s t [] q) :
    decideRoute g s t inc strict none = .noPath := by
  simp [decideRoute, (bestRoute_none_iff g hg s t []).2 hno]

/-- a request is blocked exactly when no acceptable route exists: the destination is unreachable, or the include list
is STRICT and no route honours it -/
theorem decide_blocked_iff (g : Graph) (hg : g.WF) (s t : V) (inc : List V) (strict : Bool) :
    (decideRoute g s t inc strict none = .noPath ∨ decideRoute g s t inc strict none = .noPathWithConstraint) ↔
      ((¬ ∃ q, IsRoute g s t [] q) ∨ (strict = true ∧ ¬ ∃ q, IsRoute g s t inc q)) := by
  by_cases hreach : ∃ q, IsRoute g s t [] q
  · by_cases hinc : ∃ q, IsRoute g s t inc q
    · obtain ⟨p, hp, _⟩ := decide_constrained g hg s t inc strict hinc
      simp [hp, hreach, hinc]
    · cases strict with
      | true => simp [decide_strict_blocked g hg s t inc hreach hinc, hinc]
      | false =>
        obtain ⟨p, hp, _⟩ := decide_loose_dropped g hg s t inc hreach hinc
        simp [hp, hreach]
  · simp [decide_noPath g hg s t inc strict hreach, hreach]

/-! ### `explicit_path` -/

/-- **the shortcut only returns admissible paths**: whatever `explicit_path` (repaired) returns follows existing links,
visits no element twice and passes the code's own `ispart` test against the whole include list -/
theorem explicitPath_sound (g : Graph) (omsOf : V → Option Nat) (els : Nat → List V) (sR dR : Option V)
    (inc : List V) (s t : V) (p : List V) (h : explicitPath g omsOf els sR dR inc s t = some p) :
    IsWalk g p ∧ p.Nodup ∧ ispart inc p = true := by
  obtain ⟨_, rfl, hw, hi⟩ := explicitPath_eq_some h
  exact ⟨isWalkB_iff.1 hw, uniqueOrdered_nodup _, hi⟩

/-- **an explicit route is the only route.**  `p` is the route spelled by the include list (the concatenated OMS of
`explicit_path`).  If every hop `a → b` of `p` is forced — `b` is the only successor of `a` (transceiver → its ROADM, line
element → next element), or `a` is the only predecessor of `b` and `b` lies on every route crossing the list (first
element of an OMS named in the list, destination transceiver) — then every route crossing the include list IS `p`.
Hence the shortcut returns the unique, and therefore the shortest, admissible route. -/
theorem explicit_path_unique (g : Graph) (s t : V) (inc p q : List V) (hp : IsRoute g s t inc p)
    (hq : IsRoute g s t inc q) (hf : ForcedChain g (fun b => b ∈ q) p) : q = p := by
  obtain ⟨hp1, hpl, -, hpnd, -⟩ := hp
  obtain ⟨hq1, hql, hqw, hqnd, -⟩ := hq
  cases p with
  | nil => cases hp1
  | cons x p =>
    cases q with
    | nil => cases hq1
    | cons y q =>
      cases hp1
      cases hq1
      -- a node of `p` that lies on `s :: q` lies on `q`, since `s` is not on `p`
      rw [forced_path_unique (mem := (· ∈ s :: q)) hqw hqnd hpnd hpl hql (fun b hb h =>
        (List.mem_cons.1 h).resolve_left fun e => (List.nodup_cons.1 hpnd).1 (e ▸ hb)) hf]

/-- an explicit route whose hops are forced is the only route (`explicit_path_unique`), hence a shortest one -/
theorem explicit_path_shortest (g : Graph) (s t : V) (inc p : List V) (hp : IsRoute g s t inc p)
    (hf : ∀ q, IsRoute g s t inc q → ForcedChain g (fun b => b ∈ q) p) :
    ∀ q, IsRoute g s t inc q → pathLen g p ≤ pathLen g q := by
  intro q hq
  rw [explicit_path_unique g s t inc p q hp hq (hf q hq)]

/-- the element in front of a visited line element is visited too (it is its only predecessor): an include naming any
element of an OMS puts the first element of that OMS on every admissible route, which is what `explicit_path_unique`
needs at the ROADM → first-element hops -/
theorem line_predecessor_on_route (g : Graph) (s t : V) (inc q : List V) (x u : V) (hq : IsRoute g s t inc q)
    (hx : x ∈ q) (hne : x ≠ s) (hpred : ∀ w, x ∈ g.succ w → w = u) : u ∈ q := by
  cases q with
  | nil => cases hx
  | cons a l =>
    cases hq.head
    obtain ⟨w, hwm, hws⟩ := walk_has_pred hq.walk ((List.mem_cons.1 hx).resolve_left hne)
    exact hpred w hws ▸ hwm

/-! ### route-list clean-up (`correct_json_route_list`) -/

/-- **clean-up, accepted lists**: when every unusable entry (unknown name or transceiver) is LOOSE, the clean-up keeps
exactly the usable entries, in order, with their hop types (source first / destination last silently removed) -/
theorem clean_ok (isNode isTrx : V → Bool) (s t : V) (route : List (V × Bool)) (hs : isTrx s = true)
    (ht : isTrx t = true)
    (hloose : ∀ p ∈ stripEnds s t route, badNode isNode isTrx p.1 = true → p.2 = false) :
    correctRouteList isNode isTrx s t route =
      .ok ((stripEnds s t route).filter (fun p => !(badNode isNode isTrx p.1))) := by
  rw [correctRouteList_eq, hs, ht, if_neg (by decide), if_neg (by decide), if_neg]
  intro h
  obtain ⟨p, hp, hb⟩ := List.any_eq_true.1 h
  rw [Bool.and_eq_true] at hb
  exact Bool.false_ne_true ((hloose p hp hb.1).symm.trans hb.2)

/-- **clean-up, STRICT entry that cannot be applied**: the request is refused (`ServiceError`) -/
theorem clean_strict_error (isNode isTrx : V → Bool) (s t : V) (route : List (V × Bool)) (hs : isTrx s = true)
    (ht : isTrx t = true)
    (hbad : ∃ p ∈ stripEnds s t route, badNode isNode isTrx p.1 = true ∧ p.2 = true) :
    correctRouteList isNode isTrx s t route = .error .strictUnknown := by
  obtain ⟨p, hp, h1, h2⟩ := hbad
  rw [correctRouteList_eq, hs, ht, if_neg (by decide), if_neg (by decide),
    if_pos (List.any_eq_true.2 ⟨p, hp, by rw [h1, h2]; rfl⟩)]

/-- nothing unusable survives the clean-up: every entry of an accepted list is a node of the topology and not a
transceiver -/
theorem clean_result_usable (isNode isTrx : V → Bool) (s t : V) (route r : List (V × Bool))
    (h : correctRouteList isNode isTrx s t route = .ok r) :
    ∀ p ∈ r, isNode p.1 = true ∧ isTrx p.1 = false := by
  -- of the four branches only the last returns a list
  simp only [correctRouteList_eq, Except.ite_error_eq_ok, Except.ok.injEq] at h
  obtain ⟨-, -, -, rfl⟩ := h
  intro p hp
  simpa only [badNode, Bool.not_or, Bool.not_not, Bool.and_eq_true, Bool.not_eq_true'] using
    (List.mem_filter.1 hp).2

/-! ### `ispart` -/

/-- **`ispart` is the subsequence test**: on lists without repetition (a loop-free path, an include list naming each
node once) the code's `ispart(a, b)` holds exactly when `a` is a subsequence of `b` — the relation `IsRoute` uses -/
theorem ispart_iff_sublist (a b : List V) (ha : a.Nodup) (hb : b.Nodup) :
    ispart a b = true ↔ a.Sublist b := by
  unfold ispart
  rw [ispartAux_iff, List.isChain_iff_pairwise, List.pairwise_cons, List.pairwise_map]
  simp only [Nat.zero_le, implies_true, true_and]
  exact ⟨fun ⟨hmem, hp⟩ => sublist_of_pairwise_idxOf_le ha hmem hp,
    fun hs => ⟨fun x hx => hs.subset hx, ((pairwise_idxOf_lt_of_nodup hb).sublist hs).imp Nat.le_of_lt⟩⟩

/-- the code also accepts an include list that names a node twice in a row, which no loop-free path can cross twice:
this is where `ispart` and the subsequence relation differ (the generators never repeat a node) -/
theorem ispart_repeated_node : ispart [1, 1] [0, 1, 2] = true ∧ ¬ [1, 1].Sublist [0, 1, 2] := by decide

/-! ### non-vacuity -/

/-- a 4-node diamond 0→1→3, 0→2→3; fibre on the two edges into 3 only (80 km from 1, 50 km from 2) -/
def demoG : Graph where
  n := 4
  succ := fun u => if u = 0 then [1, 2] else if u = 1 then [3] else if u = 2 then [3] else []
  len := fun u _ => if u = 1 then 80000 else if u = 2 then 50000 else 0
  pseudo := fun u _ => if u = 0 then 1 else 0

example : demoG.WF := by
  intro u
  -- nodes 0, 1, 2 with their listed successors; any other node has none
  match u with
  | 0 | 1 | 2 => decide
  | _ + 3 => exact fun _ h => nomatch h

example : simplePaths demoG 0 3 = [[0, 1, 3], [0, 2, 3]] := by decide
example : bestRoute demoG 0 3 [] = some [0, 2, 3] := by decide
example : bestRoute demoG 0 3 [1] = some [0, 1, 3] := by decide
example : bestRoute demoG 0 3 [2, 1] = none := by decide
example : decideRoute demoG 0 3 [2, 1] true none = .noPathWithConstraint := by decide
example : decideRoute demoG 0 3 [2, 1] false none = .unconstrained [0, 2, 3] := by decide
example : decideRoute demoG 3 0 [] false none = .noPath := by decide
example : checkRoute demoG 0 3 [1] [0, 1, 3] = true ∧ checkRoute demoG 0 3 [1] [0, 2, 3] = false := by decide
/-- in the diamond the include list [1] spells the route 0-1-3: node 1 has the single predecessor 0 and the single
successor 3 -/
example (q : List V) (hq : IsRoute demoG 0 3 [1] q) : q = [0, 1, 3] := by
  refine explicit_path_unique demoG 0 3 [1] [0, 1, 3] q ((checkRoute_iff demoG 0 3 [1] [0, 1, 3]).1 (by decide)) hq ?_
  refine ⟨Or.inr ⟨?_, hq.sublist.subset List.mem_cons_self⟩, Or.inl rfl, trivial⟩
  intro w hw
  match w, hw with
  | 0, _ => rfl
  | 1, hw | 2, hw => exact absurd hw (by decide)
  | _ + 3, hw => exact nomatch hw
example : (∀ u v, 1000 ∣ demoG.len u v) ∧ (∀ u v, demoG.pseudo u v ≤ 1) := by
  constructor
  · intro u v
    simp only [demoG]
    split
    · omega
    · split <;> omega
  · intro u v
    simp only [demoG]
    split <;> omega

end Gnpy.Route
