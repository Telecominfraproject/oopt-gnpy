import GnpyModel
import GnpyProofs.Lemmas.MapM
import GnpyProofs.Lemmas.SlotsStep
/- Property theorems for C14 — spectrum assignment never double-books a slot and honours what the user fixed.
   Model: GnpyModel/Slots.lean (`step` = one iteration of `pth_assign_spectrum`, `run` = a history of calls). -/
namespace Gnpy.Slots
open Gnpy.Py

/-- **A blocked (or skipped) request changes no spectrum state** – neither the maps nor the service bookkeeping of any
    OMS; holds for every state, well formed or not. -/
theorem step_blocked_unchanged (pol : Policy) (s s' : List Oms) (r : Request) (o : Outcome)
    (h : step pol s r = .ok (s', o)) (ho : ∀ nm, o ≠ Outcome.accepted nm) : s' = s := by
  rcases step_eq_ok h with ⟨h1, -⟩ | ⟨_, _, _, _, sel, _, -, -, -, -, -, h1⟩
  · exact h1
  · exact absurd h1 (ho sel)

/-- **Every granted slot range was free on every OMS of the route (both directions), inside the guard-band limits and
    the bounds of each of those maps, and has positive width.** -/
theorem step_accept_free (pol : Policy) (s s' : List Oms) (r : Request) (out : List (Int × Int)) (hs : StateWF s)
    (hnd : r.pathOms.Nodup) (h : step pol s r = .ok (s', Outcome.accepted out)) :
    ∀ nm ∈ out, 0 < nm.2 ∧ ∀ k ∈ r.pathOms, ∃ o, s[k]? = some o ∧ RangeOK o.bm nm.1 nm.2 ∧
      o.bm.nMin < nm.1 - nm.2 ∧ nm.1 + nm.2 - 1 ≤ o.bm.nMax := by
  obtain ⟨nbWl, requiredM, pcm, t, sel, A⟩ := step_accepted_spec hs h
  obtain ⟨_, _, c1, c2, c3⟩ := aggregate_spec s hs _ t A.agg
  intro nm hnm
  obtain ⟨d1, ⟨d2, d3, d4⟩, d5, d6⟩ := A.fits nm (A.perm.mem_iff.1 hnm)
  refine ⟨d1, fun k hk => ?_⟩
  obtain ⟨o, ho⟩ := c1 k hk
  obtain ⟨e1, e2, e3, e4⟩ := c2 k hk o ho
  obtain ⟨g1, g2⟩ := hs.guard o (List.mem_of_getElem? ho)
  exact ⟨o, ho, ⟨Int.le_trans g1 (e3 ▸ d2), Int.le_trans (e4 ▸ d3) g2, fun x hx1 hx2 => (c3 x).1 (d4 x hx1 hx2) k hk o ho⟩,
    e1 ▸ d5, e2 ▸ d6⟩

/-- the slot ranges given to one request do not overlap each other -/
theorem step_slots_disjoint (pol : Policy) (s s' : List Oms) (r : Request) (out : List (Int × Int)) (hs : StateWF s)
    (hnd : r.pathOms.Nodup) (h : step pol s r = .ok (s', Outcome.accepted out)) : out.Pairwise Disj := by
  obtain ⟨nbWl, requiredM, pcm, t, sel, A⟩ := step_accepted_spec hs h
  exact A.perm.symm.pairwise A.disj Disj.symm

/-- **The new state is the old one with exactly `[N−M, N+M−1]` of every granted pair marked occupied on exactly the
    OMS of the route** (`Oms.served`: same marks on every OMS of the route — "identical on every OMS of the path");
    every other OMS is untouched. -/
theorem step_marks_exactly (pol : Policy) (s s' : List Oms) (r : Request) (out : List (Int × Int)) (hs : StateWF s)
    (hnd : r.pathOms.Nodup) (h : step pol s r = .ok (s', Outcome.accepted out)) :
    s'.length = s.length ∧ (∀ k, k ∉ r.pathOms → s'[k]? = s[k]?) ∧
    ∃ nb, ∀ k ∈ r.pathOms, ∃ o, s[k]? = some o ∧ s'[k]? = some (o.served out r.id nb) := by
  obtain ⟨nbWl, _, _, _, _, A⟩ := step_accepted_spec hs h
  obtain ⟨b1, b2, b3⟩ := applyPath_spec out r.id nbWl _ s s' hnd hs.wf A.applied
  exact ⟨b1, b2, nbWl, fun k hk => (b3 k hk).imp fun o h => ⟨h.1, h.2.1⟩⟩

/-- what `served` means slot by slot: a slot covered by a granted range becomes occupied, every other slot keeps its
    value (in particular unusable stays unusable, nothing is ever freed) -/
theorem served_cellAt (o : Oms) (sel : List (Int × Int)) (id : String) (nb : Int) (x : Int) :
    (o.served sel id nb).bm.cellAt x = (o.bm.cellAt x).map (fun c => if covers sel x then Cell.occupied else c) :=
  (o.bm.markAll_marked sel).cellAt x

/-- **The assignment is identical on every OMS of the route**: the cells that change are given by the one list `out`,
    whatever the OMS. -/
theorem same_on_all_oms (pol : Policy) (s s' : List Oms) (r : Request) (out : List (Int × Int)) (hs : StateWF s)
    (hnd : r.pathOms.Nodup) (h : step pol s r = .ok (s', Outcome.accepted out)) :
    ∀ k ∈ r.pathOms, ∃ o o', s[k]? = some o ∧ s'[k]? = some o' ∧
      ∀ x, o'.bm.cellAt x = (o.bm.cellAt x).map (fun c => if covers out x then Cell.occupied else c) := by
  obtain ⟨_, _, nb, h3⟩ := step_marks_exactly pol s s' r out hs hnd h
  intro k hk
  obtain ⟨o, h1, h2⟩ := h3 k hk
  exact ⟨o, _, h1, h2, served_cellAt o out r.id nb⟩

/-- **The granted widths add up to at least the slots needed for the requested bandwidth**
    (`ceil(spacing / 12.5 GHz) · ceil(path_bandwidth / bit_rate)`). -/
theorem enough_slots (pol : Policy) (s s' : List Oms) (r : Request) (out : List (Int × Int)) (hs : StateWF s)
    (hnd : r.pathOms.Nodup) (h : step pol s r = .ok (s', Outcome.accepted out)) :
    r.bitRate ≠ 0 ∧
    ceilDiv r.spacing slotWidthHz * ceilDiv r.pathBandwidth r.bitRate ≤ sumInt (out.map (·.2)) := by
  obtain ⟨nbWl, requiredM, _, _, _, A⟩ := step_accepted_spec hs h
  have a0 := A.demand
  simp only [slotsVsBandwidth, Except.ite_throw_eq_ok, Except.pure_eq_ok_iff, Prod.mk.injEq] at a0
  exact ⟨a0.1, a0.2.2 ▸ A.enough⟩

/-- one call of `pth_assign_spectrum` as a history -/
theorem step_served {pol : Policy} {s s' : List Oms} {r : Request} {o : Outcome} (hs : StateWF s) (hnd : r.pathOms.Nodup)
    (h : step pol s r = .ok (s', o)) : Served s s' (grantsOf r o) := by
  cases o with
  | accepted out =>
    have F := step_accept_free pol s s' r out hs hnd h
    obtain ⟨m1, m2, nb, m3⟩ := step_marks_exactly pol s s' r out hs hnd h
    refine ⟨m1, fun g hg => ?_, ?_, fun k o ho => ?_⟩
    · obtain ⟨nm, hnm, rfl⟩ := List.mem_map.1 hg
      exact ⟨(F nm hnm).1, fun k hk => ((F nm hnm).2 k hk).imp fun o h => ⟨h.1, h.2.1⟩⟩
    · exact List.pairwise_map.2 ((step_slots_disjoint pol s s' r out hs hnd h).imp fun hd (_ : ∃ _, _) => hd)
    · by_cases hp : k ∈ r.pathOms
      · obtain ⟨o0, p1, p2⟩ := m3 k hp
        cases ho.symm.trans p1
        refine ⟨_, p2, (o.bm.markAll_marked out).congr fun x => ?_⟩
        rw [grantsOf, any_grantsOf_accepted, decide_eq_true hp, Bool.true_and]
      · refine ⟨o, (m2 k hp).trans ho, (Bitmap.Marked.refl o.bm).congr fun x => ?_⟩
        rw [grantsOf, any_grantsOf_accepted, decide_eq_false hp, Bool.false_and]
        exact iff_of_false id Bool.false_ne_true
  | _ =>
    cases step_blocked_unchanged pol s s' r _ h nofun
    exact Served.refl s

/-- one call keeps the state well formed (so the theorems apply to the next call) -/
theorem step_preserves_wf (pol : Policy) (s s' : List Oms) (r : Request) (o : Outcome) (hs : StateWF s)
    (hnd : r.pathOms.Nodup) (h : step pol s r = .ok (s', o)) : StateWF s' :=
  (step_served hs hnd h).stateWF hs

/-- any history of calls from a well-formed state is `Served` with the grants of its accepted requests; the history
    theorems below are projections of this -/
theorem run_served {pol : Policy} : ∀ {rs : List Request} {s s' : List Oms} {os : List Outcome}, StateWF s →
    (∀ r ∈ rs, r.pathOms.Nodup) → run pol s rs = .ok (s', os) → Served s s' (grants rs os) := by
  intro rs
  induction rs with
  | nil =>
    rintro s s' os - - h
    cases Except.pure_eq_ok_iff.1 h
    exact Served.refl s
  | cons r rs ih =>
    intro s s' os hs hnd h
    simp only [run, Except.bind_eq_ok] at h
    obtain ⟨⟨s1, o⟩, h1, ⟨_, os'⟩, h2, h⟩ := h
    cases h
    obtain ⟨hndr, hnd'⟩ := List.forall_mem_cons.1 hnd
    have S := step_served hs hndr h1
    exact S.trans (ih (S.stateWF hs) hnd' h2)

/-- after any history the state is again well formed (so the theorems apply to every prefix) -/
theorem run_preserves_wf (pol : Policy) (rs : List Request) (s s' : List Oms) (os : List Outcome) (hs : StateWF s)
    (hnd : ∀ r ∈ rs, r.pathOms.Nodup) (h : run pol s rs = .ok (s', os)) : StateWF s' :=
  (run_served hs hnd h).stateWF hs

/-- What any history of `pth_assign_spectrum` calls (ANY request list) has done to a well-formed state: `run_served` with
    the fields of `Served` spelled out, and the state is still well formed. -/
theorem run_spec (pol : Policy) : ∀ (rs : List Request) (s s' : List Oms) (os : List Outcome), StateWF s →
    (∀ r ∈ rs, r.pathOms.Nodup) → run pol s rs = .ok (s', os) →
    StateWF s' ∧ s'.length = s.length ∧
    (∀ g ∈ grants rs os, 0 < g.m ∧ ∀ k ∈ g.path, ∃ o, s[k]? = some o ∧ RangeOK o.bm g.n g.m) ∧
    (grants rs os).Pairwise Grant.Compatible ∧
    (∀ (k : Nat) (o : Oms), s[k]? = some o → ∃ o' : Oms, s'[k]? = some o' ∧ ∀ x : Int, o'.bm.cellAt x =
      (o.bm.cellAt x).map (fun c => if (grants rs os).any (fun g => g.covers k x) then Cell.occupied else c)) := by
  intro rs s s' os hs hnd h
  have S := run_served hs hnd h
  exact ⟨S.stateWF hs, S.len, S.free, S.compat, fun k o ho => (S.cells k o ho).imp fun _ h => ⟨h.1, h.2.cellAt⟩⟩

/-- Across any sequence of requests (any mix of fixed/free N and M, blocked or accepted, one or both directions, any
    policy) **two granted slot ranges that share an OMS never share a slot**; and every granted range was free in the
    initial state on each of its OMS, inside their guard-band limits (so it never sits on a slot that was occupied or
    unusable before the history started). -/
theorem history_no_overlap (pol : Policy) (rs : List Request) (s s' : List Oms) (os : List Outcome) (hs : StateWF s)
    (hnd : ∀ r ∈ rs, r.pathOms.Nodup) (h : run pol s rs = .ok (s', os)) :
    (grants rs os).Pairwise Grant.Compatible ∧
    ∀ g ∈ grants rs os, 0 < g.m ∧ ∀ k ∈ g.path, ∃ o, s[k]? = some o ∧ RangeOK o.bm g.n g.m :=
  have ⟨_, _, hfree, hcompat, _⟩ := run_spec pol rs s s' os hs hnd h
  ⟨hcompat, hfree⟩

/-- After any history **the map of every OMS is the initial map with exactly the slots of the accepted grants that cross
    this OMS turned to occupied**: nothing else changes, nothing is freed, unusable stays unusable. -/
theorem occupancy_is_union (pol : Policy) (rs : List Request) (s s' : List Oms) (os : List Outcome) (hs : StateWF s)
    (hnd : ∀ r ∈ rs, r.pathOms.Nodup) (h : run pol s rs = .ok (s', os)) :
    s'.length = s.length ∧ ∀ (k : Nat) (o : Oms), s[k]? = some o → ∃ o' : Oms, s'[k]? = some o' ∧ ∀ x : Int, o'.bm.cellAt x =
      (o.bm.cellAt x).map (fun c => if (grants rs os).any (fun g => g.covers k x) then Cell.occupied else c) :=
  have ⟨_, hlen, _, _, hcells⟩ := run_spec pol rs s s' os hs hnd h
  ⟨hlen, hcells⟩

/-- a feasible position for a slot of half-width `m` centred on `n'` on a route, measured as the test bitmap of
    `compute_n_m` measures it: free on every OMS of the route and inside the guard band counted from the first/last
    slot index of the maps -/
def Feasible (s : List Oms) (path : List Nat) (n' m : Int) : Prop :=
  ∀ k ∈ path, ∀ o, s[k]? = some o → o.bm.aggIdxMin ≤ n' - m ∧ n' + m - 1 ≤ o.bm.aggIdxMax ∧
    ∀ x : Int, n' - m ≤ x → x ≤ n' + m - 1 → o.bm.cellAt x = some Cell.free

/-- a one-entry request with a free N that is accepted got its centre from `spectrum_selection` on the test bitmap -/
theorem single_free_entry_selection {pol : Policy} {s s' : List Oms} {r : Request} {e : Entry} {n m : Int}
    (hs : StateWF s) (he : r.entries = [e]) (hn : e.n = none)
    (h : step pol s r = .ok (s', Outcome.accepted [(n, m)])) :
    ∃ t, aggregate r.pathOms s = .ok t ∧ t.WF ∧ 0 < m ∧ spectrumSelection t m pol = .ok (some n) := by
  obtain ⟨nbWl, requiredM, pcm, t, sel, A⟩ := step_accepted_spec hs h
  cases List.Perm.singleton_eq A.perm
  have a2 := A.loop
  rw [he] at a2
  rcases nmLoop_cons_eq_ok a2 with ⟨-, hnil, -⟩ | ⟨_, _, _, _, hsl, -, -, hcons⟩
  · cases hnil
  · cases hcons
    exact ⟨t, A.agg, A.wf, (A.fits _ List.mem_cons_self).1, selectOne_free hn hsl⟩

/-- a position that is feasible on the route is free and inside the guard band on the test bitmap of the route -/
theorem feasible_rangeOK {s : List Oms} (hs : StateWF s) {path : List Nat} {t : Bitmap} (ha : aggregate path s = .ok t)
    {n' m : Int} (hfeas : Feasible s path n' m) : RangeOK t n' m := by
  obtain ⟨hne, hwf, c1, c2, c3⟩ := aggregate_spec s hs _ t ha
  obtain ⟨k, hk⟩ := List.exists_mem_of_ne_nil _ hne
  obtain ⟨o, ho⟩ := c1 k hk
  obtain ⟨_, _, e3, e4⟩ := c2 k hk o ho
  obtain ⟨f1, f2, _⟩ := hfeas k hk o ho
  exact ⟨e3 ▸ f1, e4 ▸ f2, fun x hx1 hx2 => (c3 x).2 fun k' hk' o' ho' => (hfeas k' hk' o' ho').2.2 x hx1 hx2⟩

/-- With the first-fit policy a request with one slot and a free N (M fixed or free) **is placed at the lowest feasible
    position**: no centre below the granted one is feasible on the route. -/
theorem first_fit_lowest (s s' : List Oms) (r : Request) (e : Entry) (n m : Int) (hs : StateWF s)
    (hnd : r.pathOms.Nodup) (he : r.entries = [e]) (hn : e.n = none)
    (h : step Policy.firstFit s r = .ok (s', Outcome.accepted [(n, m)])) :
    ∀ n' : Int, n' < n → ¬ Feasible s r.pathOms n' m := by
  obtain ⟨t, ha, hwf, hm, hsp⟩ := single_free_entry_selection hs he hn h
  exact fun n' hlt hfeas => spectrumSelection_first t hwf m hm n hsp n' hlt (feasible_rangeOK hs ha hfeas)

/-- With the last-fit policy a request with one slot and a free N (M fixed or free) **is placed at the highest feasible
    position**: no centre above the granted one is feasible on the route. -/
theorem last_fit_highest (s s' : List Oms) (r : Request) (e : Entry) (n m : Int) (hs : StateWF s)
    (hnd : r.pathOms.Nodup) (he : r.entries = [e]) (hn : e.n = none)
    (h : step Policy.lastFit s r = .ok (s', Outcome.accepted [(n, m)])) :
    ∀ n' : Int, n < n' → ¬ Feasible s r.pathOms n' m := by
  obtain ⟨t, ha, hwf, hm, hsp⟩ := single_free_entry_selection hs he hn h
  exact fun n' hlt hfeas => spectrumSelection_last t hwf m hm n hsp n' hlt (feasible_rangeOK hs ha hfeas)

/-- For an accepted request the returned (N, M) pairs are, in request order, the entries that were served: position `k`
    of the request either is left unused (`g k = none`, intended when the demand is already served) or **receives a pair
    that carries the user's N (resp. M) of that very entry unchanged**. An entry whose fixed values cannot be used ends the
    selection: the request is blocked if demand remains (`step_blocked_unchanged`), and is otherwise accepted without that
    entry and those that follow it in the order of `order_slots`. -/
theorem user_fixed_honoured (pol : Policy) (s s' : List Oms) (r : Request) (out : List (Int × Int))
    (hs : StateWF s) (hnd : r.pathOms.Nodup) (h : step pol s r = .ok (s', Outcome.accepted out)) :
    ∃ g : Nat → Option (Int × Int), out = (List.range r.entries.length).filterMap g ∧
      ∀ (k : Nat) (nm : Int × Int), g k = some nm → ∃ e, r.entries[k]? = some e ∧ Honoured e nm := by
  obtain ⟨nbWl, requiredM, pcm, t, sel, A⟩ := step_accepted_spec hs h
  have hol : ((orderSlots r.entries).map (·.1)).length = r.entries.length := by
    rw [List.length_map, orderSlots_length]
  obtain ⟨g, g1, g2⟩ := restoreOrder_positional
    (sel.map some ++ List.replicate ((orderSlots r.entries).length - sel.length) none) _ (orderSlots_order_perm r.entries)
  refine ⟨g, A.order ▸ hol ▸ g1, fun k nm hk => ?_⟩
  obtain ⟨p, hp1, hp2⟩ := g2 k nm hk
  -- the element at sorted position `p` is one of the selected pairs …
  have hselp : sel[p]? = some nm := by
    rw [List.getElem?_append, List.getElem?_map, List.getElem?_replicate] at hp2
    split at hp2
    · obtain ⟨v, hv, e⟩ := Option.map_eq_some_iff.1 hp2
      exact hv.trans e
    · split at hp2 <;> cases hp2
  -- … chosen for the entry at sorted position `p`, which is entry `k` of the request
  obtain ⟨e, he, hon⟩ := A.honoured.getElem?_right hselp
  rw [List.getElem?_take, if_pos (List.getElem?_eq_some_iff.1 hselp).1, List.getElem?_map] at he
  obtain ⟨q, hq, rfl⟩ := Option.map_eq_some_iff.1 he
  have hq1 : q.1 = k := by
    rw [List.getElem?_map, hq] at hp1
    exact Option.some.inj hp1
  exact ⟨q.2, hq1 ▸ mem_orderSlots (List.mem_of_getElem? hq), hon⟩

/-- membership form of `user_fixed_honoured`: every returned (N, M) pair stems from an entry of the request and
    carries that entry's fixed N / M unchanged, and no more pairs than entries are returned -/
theorem user_fixed_membership (pol : Policy) (s s' : List Oms) (r : Request) (out : List (Int × Int))
    (hs : StateWF s) (hnd : r.pathOms.Nodup) (h : step pol s r = .ok (s', Outcome.accepted out)) :
    out.length ≤ r.entries.length ∧ ∀ nm ∈ out, ∃ e ∈ r.entries, Honoured e nm := by
  obtain ⟨g, rfl, hg⟩ := user_fixed_honoured pol s s' r out hs hnd h
  refine ⟨by simpa using List.length_filterMap_le g (List.range r.entries.length), fun nm hnm => ?_⟩
  obtain ⟨k, -, hk⟩ := List.mem_filterMap.1 hnm
  obtain ⟨e, he, hon⟩ := hg k nm hk
  exact ⟨e, List.mem_of_getElem? he, hon⟩

/-- When every M of the request is fixed (and non-zero) **the request is blocked with `NOT_ENOUGH_RESERVED_SPECTRUM`
    exactly when the channels that fit into the reserved widths**, `Σ M // m₁` with `m₁` the slots of one channel, **are
    fewer than the channels needed for the bandwidth** — independently of the spectrum state. -/
theorem reserved_check (pol : Policy) (s : List Oms) (r : Request) (nbWl requiredM x pcm : Int)
    (hpb : r.preBlocked = false)
    (h1 : slotsVsBandwidth r.pathBandwidth r.spacing r.bitRate = .ok (nbWl, requiredM))
    (h2 : slotsVsBandwidth r.bitRate r.spacing r.bitRate = .ok (x, pcm)) (hpcm : pcm ≠ 0)
    (hall : ∀ e ∈ r.entries, ∃ m, e.m = some m ∧ m ≠ 0) :
    (∃ s', step pol s r = .ok (s', Outcome.blocked "NOT_ENOUGH_RESERVED_SPECTRUM")) ↔
      sumInt (r.entries.map (fun e => floorDiv (e.m.getD 0) pcm)) < nbWl := by
  simp only [step, hpb, Bool.false_eq_true, if_false, h1, h2, reservedShort_all r.entries pcm nbWl hpcm hall,
    Except.ok_bind, decide_eq_true_eq]
  by_cases hlt : nbWl > sumInt (r.entries.map (fun e => floorDiv (e.m.getD 0) pcm))
  · simp only [hlt, if_true, Except.pure_eq_ok_iff, Prod.mk.injEq, and_true, exists_eq']
  · simp only [hlt, if_false, Except.bind_eq_ok, Except.ite_eq_ok, Except.pure_eq_ok_iff, Prod.mk.injEq, reduceCtorEq, and_false, exists_false, or_false, iff_false, not_exists]
    -- the only other blocked outcome of `step` carries "NO_SPECTRUM", a different string
    exact fun _ _ h => absurd h.2.2.2 (by decide)

/-- **a free fixed slot is granted** (completeness for the fully fixed one-slot request): when the user fixes (N, M), the
    width carries the demand (`nb_wl ≤ M // m₁`, required slots ≤ M) and `[N−M, N+M−1]` is feasible on the route — free
    on every OMS, inside the guard band, above the first index of the maps — the request is accepted with exactly
    (N, M), whatever the policy. Together with `step_blocked_unchanged` this is what makes a blocked request invisible
    to the requests that follow it. -/
theorem fixed_free_granted (pol : Policy) (s : List Oms) (r : Request) (n m nbWl req x pcm : Int)
    (hs : StateWF s) (hnd : r.pathOms.Nodup) (hne : r.pathOms ≠ []) (hpb : r.preBlocked = false)
    (he : r.entries = [⟨some n, some m⟩])
    (h1 : slotsVsBandwidth r.pathBandwidth r.spacing r.bitRate = .ok (nbWl, req))
    (h2 : slotsVsBandwidth r.bitRate r.spacing r.bitRate = .ok (x, pcm)) (hpcm : pcm ≠ 0)
    (hm : 0 < m) (hres : nbWl ≤ floorDiv m pcm) (hreq : req ≤ m)
    (hfeas : Feasible s r.pathOms n m)
    (hin : ∀ k ∈ r.pathOms, ∃ o, s[k]? = some o ∧ o.bm.nMin < n - m ∧ n + m - 1 ≤ o.bm.nMax) :
    ∃ s', step pol s r = .ok (s', Outcome.accepted [(n, m)]) := by
  obtain ⟨t, ht⟩ := aggregate_total hs hne fun k hk => (hin k hk).imp fun _ h => h.1
  obtain ⟨-, hwf, -, c2, -⟩ := aggregate_spec s hs _ t ht
  have hok : RangeOK t n m := feasible_rangeOK hs ht hfeas
  obtain ⟨k0, hk0⟩ := List.exists_mem_of_ne_nil _ hne
  obtain ⟨o0, ho0, g1, g2⟩ := hin k0 hk0
  obtain ⟨e1, e2, -, -⟩ := c2 k0 hk0 o0 ho0
  have ht' := assignSpectrum_eq t n m hwf hm (by have := hok.1; omega) (by have := hok.2.1; omega) (e1 ▸ g1) (e2 ▸ g2)
  -- the selection loop on the single entry; the closing `rfl` evaluates `order_slots` and `restore_order` on the one-element list
  have hcomp : computeNM req r.entries r.pathOms s pcm pol = .ok ([(n, m)], req - m) := by
    rw [he]
    simp only [computeNM, ht, show (orderSlots [(⟨some n, some m⟩ : Entry)]).map (·.2) = [⟨some n, some m⟩] from rfl,
      nmLoop, selectOne, determineSlotNumbers_of_rangeOK t hwf n m hm hok, ht', Except.ok_bind, pure_bind, if_neg (Int.ne_of_gt hm)]
    rfl
  -- the final loop on the OMS of the route
  obtain ⟨s', hs'⟩ := applyPath_total n m hm r.id nbWl r.pathOms s hnd fun k hk => by
    obtain ⟨o, ho, a1, a2⟩ := hin k hk
    obtain ⟨f1, f2, -⟩ := hfeas k hk o ho
    obtain ⟨q1, q2⟩ := hs.guard o (List.mem_of_getElem? ho)
    exact ⟨o, ho, hs.wf o (List.mem_of_getElem? ho), by omega, by omega, a1, a2⟩
  have hrs : reservedShort r.entries pcm nbWl = .ok false := by
    rw [reservedShort_all r.entries pcm nbWl hpcm (by simp [he, Int.ne_of_gt hm]), he]
    simp [sumInt, Int.not_lt.2 hres]
  exact ⟨s', by
    simp only [step, hpb, Bool.false_eq_true, if_false, h1, h2, hrs, hcomp, hs', Except.ok_bind,
      if_neg (Int.not_lt.2 (Int.sub_nonpos_of_le hreq))]
    rfl⟩

/-- A map built by `OMS.update_spectrum` / `Bitmap.__init__` on the default grid is well formed; when the guard band is
    a non-negative multiple of the grid step (the shipped flow uses 25 GHz = 4 steps) the guard-band limits recomputed
    by `aggregate_oms_bitmap` are never looser than the recorded `freq_index_min/max`. -/
theorem create_wf (fMin fMax k : Int) (hk : 0 ≤ k) (cells : Option (List Cell)) (b : Bitmap)
    (h : Bitmap.create fMin fMax defaultGrid (k * defaultGrid) cells = .ok b) :
    b.WF ∧ b.idxMin ≤ b.aggIdxMin ∧ b.aggIdxMax ≤ b.idxMax ∧ b.nMin = frequencyToN fMin ∧ b.nMax = frequencyToN fMax ∧
      b.guardband = k * defaultGrid := by
  have C := Bitmap.create_ok h
  refine ⟨C.wf, ?_, ?_, C.nMin, C.nMax, C.guardband⟩
  · rw [Bitmap.aggIdxMin, C.nMin, C.idxMin, C.guardband, nToFrequency_add_mul, frequencyToN_nToFrequency]
    exact frequencyToN_add_le fMin k hk
  · rw [Bitmap.aggIdxMax, C.nMax, C.idxMax, C.guardband, nToFrequency_sub_mul, frequencyToN_nToFrequency]
    exact le_frequencyToN_sub fMax k hk

/-- every OMS list whose maps were all created over one frequency range with one guard band (a multiple of the grid
    step) – which is what `build_oms_list` does – satisfies the hypothesis `StateWF` of the theorems above -/
theorem stateWF_of_create (fMin fMax k : Int) (hk : 0 ≤ k) (s : List Oms)
    (h : ∀ o ∈ s, ∃ cells, Bitmap.create fMin fMax defaultGrid (k * defaultGrid) cells = .ok o.bm) : StateWF s := by
  have W := fun o ho => (h o ho).elim fun c hc => create_wf fMin fMax k hk c _ hc
  refine ⟨fun o ho => (W o ho).1, fun o ho o' ho' => ?_, fun o ho => ⟨(W o ho).2.1, (W o ho).2.2.1⟩⟩
  obtain ⟨-, -, -, a1, a2, a3⟩ := W o ho
  obtain ⟨-, -, -, b1, b2, b3⟩ := W o' ho'
  exact ⟨a1.trans b1.symm, a2.trans b2.symm, a3.trans b3.symm⟩

/-! ### non-vacuity -/

/-- a 41-slot map (n = −20 … 20, guard band 25 GHz) as `Bitmap.__init__` builds it -/
def exBitmap : Bitmap :=
  { nMin := -20, nMax := 20, idxMin := -16, idxMax := 16, freqIndex := intRange (-20) 21,
    cells := List.replicate 41 Cell.free, guardband := 25000000000 }
def exState : List Oms := [⟨exBitmap, 0, []⟩, ⟨exBitmap, 0, []⟩, ⟨exBitmap, 0, []⟩]
def exReq (id : String) (entries : List Entry) (path : List Nat) : Request :=
  { id := id, preBlocked := false, entries := entries, pathBandwidth := 100000000000, bitRate := 100000000000,
    spacing := 50000000000, pathOms := path }

example : (Bitmap.create (anchorHz - 20 * defaultGrid) (anchorHz + 20 * defaultGrid) defaultGrid (4 * defaultGrid) none).toOption
    = some exBitmap := by decide +kernel

/-- the hypothesis `StateWF` holds for a concrete non-trivial state -/
example : StateWF exState := by
  apply stateWF_of_create (anchorHz - 20 * defaultGrid) (anchorHz + 20 * defaultGrid) 4 (by decide)
  intro o ho
  refine ⟨none, ?_⟩
  simp only [exState, List.mem_cons, List.not_mem_nil, or_false] at ho
  rcases ho with rfl | rfl | rfl <;> decide +kernel

/-- an accepted request (free N and M, two-OMS route): first fit puts it at N = −12 -/
example : (step .firstFit exState (exReq "a" [⟨none, none⟩] [0, 1])).toOption.map (·.2) =
    some (Outcome.accepted [(-12, 4)]) := by decide +kernel

/-- a history with an accepted, a blocked (fixed slot already taken on the shared OMS 1) and a multi-slot request:
    the grant list is not empty and two grants share OMS 1 -/
example : (run .firstFit exState [exReq "a" [⟨none, none⟩] [0, 1], exReq "b" [⟨some (-12), some 4⟩] [1, 2],
                                 exReq "c" [⟨none, some 4⟩, ⟨some 8, some 4⟩] [1, 2]]).toOption.map (·.2) =
    some [Outcome.accepted [(-12, 4)], Outcome.blocked "NO_SPECTRUM", Outcome.accepted [(-4, 4), (8, 4)]] := by decide +kernel

/-- the reserved-spectrum check fires: M = 2 carries no 50 GHz channel -/
example : (step .firstFit exState (exReq "d" [⟨some 0, some 2⟩] [0])).toOption.map (·.2) =
    some (Outcome.blocked "NOT_ENOUGH_RESERVED_SPECTRUM") := by decide +kernel

end Gnpy.Slots
