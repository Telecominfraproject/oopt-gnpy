import GnpyModel
import GnpyProofs.Lemmas.Db
import GnpyProofs.Lemmas.Spectrum
import GnpyProofs.Props.C01
/- Property theorems for C02 — signal quality never improves along a path; passive elements leave it
   unchanged.  Model: GnpyModel/Spectrum.lean.  All statements over ℝ.  That states stay live along a run is C01's
   (`step_live`, `path_live`; also used from there: `nsr_split`, `attDb_live`, `multiband_mem`).

   The three figures are `snrLin = s/a` (OSNR_ASE), `snrNli = s/n`, `gsnr = s/(a+n)`.  While a noise share is still
   zero the figure is +∞ in the code (numpy division) – to state monotonicity for *every* state the theorems are
   first given for the inverse figures `nsrAse = a/s`, `nsrNli = n/s`, `nsr = (a+n)/s` (non-decreasing), then for
   the figures themselves where they are finite. -/
namespace Gnpy.Spectrum
open Chan

/-! ### attenuations and gains leave the shares, hence the figures, unchanged -/

/-- attenuation / gain (linear or dB) leave the three shares literally unchanged -/
theorem attLin_ratios (c : Chan ℝ) (g : ℝ) :
    (c.attLin g).s = c.s ∧ (c.attLin g).a = c.a ∧ (c.attLin g).n = c.n := ⟨rfl, rfl, rfl⟩
theorem attDb_ratios (c : Chan ℝ) (d : ℝ) :
    (c.attDb d).s = c.s ∧ (c.attDb d).a = c.a ∧ (c.attDb d).n = c.n := ⟨rfl, rfl, rfl⟩
theorem gainLin_ratios (c : Chan ℝ) (g : ℝ) :
    (c.gainLin g).s = c.s ∧ (c.gainLin g).a = c.a ∧ (c.gainLin g).n = c.n := ⟨rfl, rfl, rfl⟩
theorem gainDb_ratios (c : Chan ℝ) (d : ℝ) :
    (c.gainDb d).s = c.s ∧ (c.gainDb d).a = c.a ∧ (c.gainDb d).n = c.n := ⟨rfl, rfl, rfl⟩

/-- equal shares give equal figures (all three, and their inverses) -/
theorem figures_of_ratios (c c' : Chan ℝ) (hs : c'.s = c.s) (ha : c'.a = c.a) (hn : c'.n = c.n) :
    c'.gsnr = c.gsnr ∧ c'.snrLin = c.snrLin ∧ c'.snrNli = c.snrNli ∧
    c'.nsr = c.nsr ∧ c'.nsrAse = c.nsrAse ∧ c'.nsrNli = c.nsrNli := by
  simp only [gsnr, snrLin, snrNli, nsr, nsrAse, nsrNli, hs, ha, hn, and_self]

/-- a run of attenuations and gains only -/
def Passive : List (Op ℝ) → Prop
  | [] => True
  | .attLin _ :: r => Passive r
  | .attDb _ :: r => Passive r
  | .gainLin _ :: r => Passive r
  | .gainDb _ :: r => Passive r
  | _ :: _ => False

/-- **passive op lists leave the shares – hence GSNR, OSNR_ASE and SNR_NLI – exactly unchanged** -/
theorem passive_unchanged (ops : List (Op ℝ)) (c : Chan ℝ) (h : Passive ops) :
    (run ops c).s = c.s ∧ (run ops c).a = c.a ∧ (run ops c).n = c.n := by
  induction ops generalizing c with
  | nil => exact ⟨rfl, rfl, rfl⟩
  | cons o r ih =>
    cases o with
    | addAse _ | addNli _ => exact h.elim
    | _ => exact ih _ h

/-! ### `Worse`: no better in any of the three noise-to-signal ratios -/

theorem inv_figures (c : Chan ℝ) : c.gsnr = 1 / c.nsr ∧ c.snrLin = 1 / c.nsrAse ∧ c.snrNli = 1 / c.nsrNli := by
  simp only [gsnr, snrLin, snrNli, nsr, nsrAse, nsrNli, one_div, inv_div, and_self]

/-- `Worse c c'`: `c'` is no better than `c`, each of its three noise-to-signal ratios is at least that of `c` -/
def Worse (c c' : Chan ℝ) : Prop := c.nsrAse ≤ c'.nsrAse ∧ c.nsrNli ≤ c'.nsrNli ∧ c.nsr ≤ c'.nsr

theorem Worse.refl (c : Chan ℝ) : Worse c c := ⟨le_refl _, le_refl _, le_refl _⟩
theorem Worse.trans {a b c : Chan ℝ} (h1 : Worse a b) (h2 : Worse b c) : Worse a c :=
  ⟨le_trans h1.1 h2.1, le_trans h1.2.1 h2.2.1, le_trans h1.2.2 h2.2.2⟩

/-- diluting the shares and adding fresh noise never improves a ratio -/
theorem Diluted.worse {c c' : Chan ℝ} {k u v : ℝ} (h : Diluted c c' k u v) (hs : 0 < c.s) (hk : 0 < k) :
    Worse c c' := by
  have h1 : c.nsrAse ≤ c'.nsrAse :=
    h.nsrAse_eq hk.ne' ▸ le_add_of_nonneg_right (div_nonneg h.u_nonneg (mul_pos hs hk).le)
  have h2 : c.nsrNli ≤ c'.nsrNli :=
    h.nsrNli_eq hk.ne' ▸ le_add_of_nonneg_right (div_nonneg h.v_nonneg (mul_pos hs hk).le)
  exact ⟨h1, h2, by rw [nsr_split, nsr_split]; exact add_le_add h1 h2⟩

/-- a figure is the inverse of its noise-to-signal ratio, so where it is finite it can only go down -/
theorem figures_antitone {c c' : Chan ℝ} (h : Worse c c') (hs : 0 < c.s) :
    (0 < c.a → c'.snrLin ≤ c.snrLin) ∧ (0 < c.n → c'.snrNli ≤ c.snrNli) ∧ (0 < c.a + c.n → c'.gsnr ≤ c.gsnr) := by
  have key : ∀ {x x' s' : ℝ}, 0 < x → x / c.s ≤ x' / s' → s' / x' ≤ c.s / x := fun {x x' s'} hx hle => by
    rw [← inv_div x', ← inv_div x]; exact inv_anti₀ (div_pos hx hs) hle
  exact ⟨fun ha => key ha h.1, fun hn => key hn h.2.1, fun hno => key hno h.2.2⟩

/-! ### `add_ase` and `add_nli` -/

theorem addAse_worse (c : Chan ℝ) (e : ℝ) (hp : 0 < c.p) (hs : 0 < c.s) (he : 0 ≤ e) : Worse c (c.addAse e) :=
  (addAse_diluted c e hp he).worse hs (by positivity)

/-- ASE does not touch SNR_NLI -/
theorem addAse_snrNli_eq (c : Chan ℝ) (e : ℝ) (hp : 0 < c.p) (he : 0 ≤ e) :
    (c.addAse e).snrNli = c.snrNli ∧ (c.addAse e).nsrNli = c.nsrNli := by
  have hk : c.p / (c.p + e) ≠ 0 := by positivity
  exact ⟨mul_div_mul_right _ _ hk, mul_div_mul_right _ _ hk⟩

/-- ASE raises the ASE-to-signal ratio by exactly `e / signal power` -/
theorem addAse_nsrAse (c : Chan ℝ) (e : ℝ) (hp : 0 < c.p) (hs : 0 < c.s) (he : 0 ≤ e) :
    (c.addAse e).nsrAse = c.nsrAse + e / c.signal := by
  have hp' : c.p + e ≠ 0 := by positivity
  rw [(addAse_diluted c e hp he).nsrAse_eq (by positivity), ← mul_div_assoc, div_div_div_cancel_right₀ hp']; rfl

theorem addAse_nsrAse_ge (c : Chan ℝ) (e : ℝ) (hp : 0 < c.p) (hs : 0 < c.s) (he : 0 ≤ e) :
    c.nsrAse ≤ (c.addAse e).nsrAse := (addAse_worse c e hp hs he).1

/-- OSNR_ASE can only go down when ASE is added (stated where it is finite) -/
theorem addAse_snr_le (c : Chan ℝ) (e : ℝ) (hp : 0 < c.p) (hs : 0 < c.s) (ha : 0 < c.a) (he : 0 ≤ e) :
    (c.addAse e).snrLin ≤ c.snrLin := (figures_antitone (addAse_worse c e hp hs he) hs).1 ha

theorem addAse_nsr_ge (c : Chan ℝ) (e : ℝ) (hp : 0 < c.p) (hs : 0 < c.s) (he : 0 ≤ e) :
    c.nsr ≤ (c.addAse e).nsr := (addAse_worse c e hp hs he).2.2

/-- GSNR can only go down when ASE is added -/
theorem addAse_gsnr_le (c : Chan ℝ) (e : ℝ) (hp : 0 < c.p) (hs : 0 < c.s) (hno : 0 < c.a + c.n) (he : 0 ≤ e) :
    (c.addAse e).gsnr ≤ c.gsnr := (figures_antitone (addAse_worse c e hp hs he) hs).2.2 hno

theorem addNli_worse (c : Chan ℝ) (x : ℝ) (hp : 0 < c.p) (hs : 0 < c.s) (hx0 : 0 ≤ x) (hx : x < c.p) :
    Worse c (c.addNli x) :=
  (addNli_diluted c x hp hx0).worse hs (one_sub_div_pos hp hx)

/-- NLI does not touch OSNR_ASE (signal and ASE are reduced by the same factor) -/
theorem addNli_snr_eq (c : Chan ℝ) (x : ℝ) (hp : 0 < c.p) (hx : x < c.p) :
    (c.addNli x).snrLin = c.snrLin ∧ (c.addNli x).nsrAse = c.nsrAse := by
  have hk : (1:ℝ) - x / c.p ≠ 0 := (one_sub_div_pos hp hx).ne'
  simp only [addNli, snrLin, nsrAse, Nat.cast_one]
  exact ⟨mul_div_mul_right _ _ hk, mul_div_mul_right _ _ hk⟩

/-- NLI raises the NLI-to-signal ratio by exactly `r / (s·(1−r))`, `r = x / p` -/
theorem addNli_nsrNli (c : Chan ℝ) (x : ℝ) (hp : 0 < c.p) (hs : 0 < c.s) (hx : x < c.p) :
    (c.addNli x).nsrNli = c.nsrNli + (x / c.p) / (c.s * (1 - x / c.p)) := by
  have hk : (1:ℝ) - x / c.p ≠ 0 := (one_sub_div_pos hp hx).ne'
  simp only [addNli, nsrNli, Nat.cast_one]
  rw [add_div, mul_div_mul_right _ _ hk]

theorem addNli_nsrNli_ge (c : Chan ℝ) (x : ℝ) (hp : 0 < c.p) (hs : 0 < c.s) (hx0 : 0 ≤ x) (hx : x < c.p) :
    c.nsrNli ≤ (c.addNli x).nsrNli := (addNli_worse c x hp hs hx0 hx).2.1

/-- SNR_NLI can only go down when NLI is added (stated where it is finite) -/
theorem addNli_snrNli_le (c : Chan ℝ) (x : ℝ) (hp : 0 < c.p) (hs : 0 < c.s) (hn : 0 < c.n) (hx0 : 0 ≤ x)
    (hx : x < c.p) : (c.addNli x).snrNli ≤ c.snrNli := (figures_antitone (addNli_worse c x hp hs hx0 hx) hs).2.1 hn

theorem addNli_nsr_ge (c : Chan ℝ) (x : ℝ) (hp : 0 < c.p) (hs : 0 < c.s) (hx0 : 0 ≤ x) (hx : x < c.p) :
    c.nsr ≤ (c.addNli x).nsr := (addNli_worse c x hp hs hx0 hx).2.2

theorem addNli_gsnr_le (c : Chan ℝ) (x : ℝ) (hp : 0 < c.p) (hs : 0 < c.s) (hno : 0 < c.a + c.n) (hx0 : 0 ≤ x)
    (hx : x < c.p) : (c.addNli x).gsnr ≤ c.gsnr := (figures_antitone (addNli_worse c x hp hs hx0 hx) hs).2.2 hno

/-! ### runs and paths -/

/-- one guarded mutating call never improves any of the three figures -/
theorem step_monotone (c : Chan ℝ) (o : Op ℝ) (h : Live c) (ho : OpOk c o) : Worse c (step c o) := by
  cases o with
  | addAse e => exact addAse_worse c e h.1.p_pos h.2 ho
  | addNli x => exact addNli_worse c x h.1.p_pos h.2 ho.1 ho.2
  | _ => exact .refl c

/-- **C02, every operation sequence**: GSNR, OSNR_ASE and SNR_NLI (as inverse figures) are monotone along the run -/
theorem run_monotone (ops : List (Op ℝ)) (c : Chan ℝ) (h : Live c) (hok : RunOk ops c) : Worse c (run ops c) := by
  -- carried along the run: the state is live and no better than at the start
  refine (run_induction (P := fun c' => Live c' ∧ Worse c c') (fun c' o h ho => ?_) ⟨h, .refl c⟩ hok).2
  exact ⟨step_live c' o h.1 ho, h.2.trans (step_monotone c' o h.1 ho)⟩

/-- the figures themselves, where finite, are non-increasing along every run -/
theorem run_figures_antitone (ops : List (Op ℝ)) (c : Chan ℝ) (h : Live c) (hok : RunOk ops c) :
    (0 < c.a → (run ops c).snrLin ≤ c.snrLin) ∧ (0 < c.n → (run ops c).snrNli ≤ c.snrNli) ∧
    (0 < c.a + c.n → (run ops c).gsnr ≤ c.gsnr) :=
  figures_antitone (run_monotone ops c h hok) h.2

theorem path_worse (es : List (Elem ℝ)) (c : Chan ℝ) (h : Live c) (hok : PathOk es c) : Worse c (path es c) := by
  rw [path_eq_run]; exact run_monotone _ c h ((pathOk_iff_runOk es c).1 hok)

/-- **C02, every path, from element to element**: after any prefix `l` of a path the figures are no
better than at the start, and after any longer prefix `l ++ r` no better than after `l` -/
theorem path_monotone (l r : List (Elem ℝ)) (c : Chan ℝ) (h : Live c) (hok : PathOk (l ++ r) c) :
    Worse c (path l c) ∧ Worse (path l c) (path (l ++ r) c) := by
  obtain ⟨hl, hr⟩ := (pathOk_append l r c).1 hok
  exact ⟨path_worse l c h hl, path_append l r c ▸ path_worse r _ (path_live l c h hl) hr⟩

/-! ### element by element -/

/-- a ROADM leaves all three shares exactly unchanged (whatever its loss and equalisation) -/
theorem roadm_unchanged (ml d : ℝ) (c : Chan ℝ) :
    ((Elem.roadm ml d).apply c).s = c.s ∧ ((Elem.roadm ml d).apply c).a = c.a ∧ ((Elem.roadm ml d).apply c).n = c.n :=
  ⟨rfl, rfl, rfl⟩

/-- a fused attenuator / connector / padding loss leaves all three shares exactly unchanged -/
theorem fused_unchanged (l : ℝ) (c : Chan ℝ) :
    ((Elem.fused l).apply c).s = c.s ∧ ((Elem.fused l).apply c).a = c.a ∧ ((Elem.fused l).apply c).n = c.n :=
  ⟨rfl, rfl, rfl⟩

theorem trx_unchanged (c : Chan ℝ) : (Elem.trx : Elem ℝ).apply c = c := rfl

/-- hence GSNR, OSNR_ASE and SNR_NLI after a ROADM or a fused element are those before it -/
theorem passive_elements_figures (c : Chan ℝ) (ml d l : ℝ) :
    ((Elem.roadm ml d).apply c).gsnr = c.gsnr ∧ ((Elem.roadm ml d).apply c).snrLin = c.snrLin ∧
    ((Elem.roadm ml d).apply c).snrNli = c.snrNli ∧
    ((Elem.fused l).apply c).gsnr = c.gsnr ∧ ((Elem.fused l).apply c).snrLin = c.snrLin ∧
    ((Elem.fused l).apply c).snrNli = c.snrNli := ⟨rfl, rfl, rfl, rfl, rfl, rfl⟩

/-- **an amplifier can only lower OSNR_ASE**: SNR_NLI is exactly unchanged, the ASE-to-signal ratio does not decrease -/
theorem edfa_only_osnr (v : Option ℝ) (e g : ℝ) (c : Chan ℝ) (h : Live c) (he : 0 ≤ e) :
    ((Elem.edfa v e g).apply c).snrNli = c.snrNli ∧ ((Elem.edfa v e g).apply c).nsrNli = c.nsrNli ∧
    c.nsrAse ≤ ((Elem.edfa v e g).apply c).nsrAse := by
  -- the optional input VOA and the gain leave the shares as they are
  have key : ∀ c : Chan ℝ, Live c → (c.addAse e).snrNli = c.snrNli ∧ (c.addAse e).nsrNli = c.nsrNli ∧
      c.nsrAse ≤ (c.addAse e).nsrAse := fun c h =>
    and_assoc.1 ⟨addAse_snrNli_eq c e h.1.p_pos he, addAse_nsrAse_ge c e h.1.p_pos h.2 he⟩
  cases v with
  | none => exact key c h
  | some v => exact key (c.attDb v) (attDb_live c v h)

/-- **a (non-Raman) fibre can only lower SNR_NLI**: OSNR_ASE is exactly unchanged -/
theorem fiber_only_nli (i x f o : ℝ) (c : Chan ℝ) (h : Live c) (hx0 : 0 ≤ x) (hx : x < (c.attDb i).p) :
    ((Elem.fiber i x f o).apply c).snrLin = c.snrLin ∧ ((Elem.fiber i x f o).apply c).nsrAse = c.nsrAse ∧
    c.nsrNli ≤ ((Elem.fiber i x f o).apply c).nsrNli := by
  -- by definition the shares after the fibre are those after its input attenuation and `add_nli`
  have hl := attDb_live c i h
  have hp := hl.1.p_pos
  exact and_assoc.1 ⟨addNli_snr_eq (c.attDb i) x hp hx, addNli_nsrNli_ge (c.attDb i) x hp hl.2 hx0 hx⟩

/-- a Raman fibre adds both kinds of noise: neither figure improves -/
theorem raman_monotone (i x e f o : ℝ) (c : Chan ℝ) (h : Live c) (hx0 : 0 ≤ x) (hx : x < (c.attDb i).p)
    (he : 0 ≤ e) (hf : 0 < f) : Worse c ((Elem.raman i x e f o).apply c) :=
  run_monotone _ c h ⟨trivial, ⟨hx0, hx⟩, he, hf, trivial, trivial⟩

/-- through a multiband amplifier every channel keeps its SNR_NLI and its OSNR_ASE does not improve -/
theorem multiband_only_osnr (amps : List ((Int → Bool) × (Int → Elem ℝ))) (sp out : List (Int × Chan ℝ))
    (h : multiband amps sp = some out) (hlive : ∀ kc ∈ sp, Live kc.2)
    (hedfa : ∀ bf ∈ amps, ∀ f, ∃ v e g, bf.2 f = Elem.edfa v e g ∧ 0 ≤ e) :
    ∀ kc ∈ out, ∃ c, (kc.1, c) ∈ sp ∧ kc.2.nsrNli = c.nsrNli ∧ c.nsrAse ≤ kc.2.nsrAse := by
  intro kc hkc
  obtain ⟨bf, hbf, c, hc, _, heq⟩ := multiband_mem amps sp out h kc hkc
  obtain ⟨v, e, g, hel, he⟩ := hedfa bf hbf kc.1
  rw [heq, hel]
  exact ⟨c, hc, (edfa_only_osnr v e g c (hlive _ hc) he).2⟩

/-- a spectrum through one element: channel by channel no figure improves -/
theorem applyElems_monotone (es : List (Elem ℝ)) (sp : List (Chan ℝ))
    (h : List.Forall₂ (fun e c => Live c ∧ RunOk e.ops c) es sp) :
    List.Forall₂ (fun c c' => Worse c c') sp (applyElems es sp) := by
  induction h with
  | nil => exact List.Forall₂.nil
  | cons hd _ ih => exact List.Forall₂.cons (run_monotone _ _ hd.1 hd.2) ih

/-! ### non-vacuity -/

/-- a guarded path ROADM → amplifier → fibre → amplifier exists (hypothesis `hok` of `path_monotone`) -/
example : PathOk [Elem.roadm 0 0, Elem.edfa (some 0) (1/1000000000) 20, Elem.fiber 0 (1/100000000) (1/100) 0,
                  Elem.edfa none (1/1000000000) 20]
    ({ p := 1/1000, s := 1, a := 0, n := 0 } : Chan ℝ) := by
  have h20 : (1:ℝ) ≤ db2lin 20 := one_le_db2lin (by norm_num)
  refine ⟨⟨trivial, trivial, trivial⟩, ⟨trivial, ?_, trivial, trivial⟩, ⟨trivial, ⟨?_, ?_⟩, ?_, trivial, trivial⟩,
          ⟨?_, trivial, trivial⟩, trivial⟩
  · show (0:ℝ) ≤ 1/1000000000; norm_num
  · show (0:ℝ) ≤ 1/100000000; norm_num
  · -- the NLI (1e-8 W) is below the power entering the fibre, (1e-3 + 1e-9)·db2lin 20 ≥ 1e-3
    show (1:ℝ)/100000000 < (1/1000 * (((1:ℕ):ℝ) / db2lin 0) * (((1:ℕ):ℝ) / db2lin 0) * (((1:ℕ):ℝ) / db2lin 0)
      + 1/1000000000) * db2lin 20 * (((1:ℕ):ℝ) / db2lin 0)
    rw [db2lin_zero, Nat.cast_one, div_one, mul_one, mul_one, mul_one]
    exact lt_of_lt_of_le (by norm_num) (le_mul_of_one_le_right (by norm_num) h20)
  · show (0:ℝ) < 1/100; norm_num
  · show (0:ℝ) ≤ 1/1000000000; norm_num

/-- the channel that path starts from is live (hypothesis `h` of `path_monotone`) -/
example : Live ({ p := 1/1000, s := 1, a := 0, n := 0 } : Chan ℝ) :=
  ⟨⟨by norm_num, by norm_num, by norm_num, by norm_num, by norm_num⟩, by norm_num⟩

end Gnpy.Spectrum
