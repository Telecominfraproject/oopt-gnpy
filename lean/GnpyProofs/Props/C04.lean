import GnpyModel
import GnpyProofs.Lemmas.Edfa
/- Property theorems for C04 — an amplifier applies its set gain (reduced only as far as needed so that the
   amplified incoming power never exceeds p_max), adds ASE = h·f·B·NF referred to its input, follows the
   configured NF model, and does not amplify out-of-band channels.  Model: GnpyModel/Edfa.lean.  Statements over ℝ. -/
namespace Gnpy.Edfa

/-! ### saturation clamp (`interpol_params`) -/

theorem effGain_le_set (s pm pin : ℝ) : effGain s pm pin ≤ s := by
  rw [effGain_eq]; exact min_le_left _ _

/-- total input power (dBm) + effective gain never exceeds `p_max` -/
theorem effGain_clamp (s pm pin : ℝ) : pin + effGain s pm pin ≤ pm := by
  rw [effGain_eq, add_comm]; exact le_sub_iff_add_le.1 (min_le_right _ _)

theorem effGain_eq_set_iff (s pm pin : ℝ) : effGain s pm pin = s ↔ pin + s ≤ pm := by
  rw [effGain_eq, min_eq_left_iff, le_sub_iff_add_le, add_comm]

/-- "reduced only as far as needed": a saturating set gain is cut back to exactly `p_max - pin` -/
theorem effGain_reduced_exact (s pm pin : ℝ) (h : pm < pin + s) : pin + effGain s pm pin = pm := by
  rw [effGain_eq, min_eq_right (sub_left_le_of_le_add h.le), add_sub_cancel]

/-- **raises total power by the effective gain** (flat profile) -/
theorem flat_total_gain (ps : List ℝ) (g : ℝ) (hne : ps ≠ []) (hpos : ∀ p ∈ ps, 0 < p) :
    watt2dbm (sumL (ps.map (fun p => p * db2lin g))) = watt2dbm (sumL ps) + g := by
  rw [sumL_map_mul_right, watt2dbm_mul_db2lin _ (sumL_pos hne hpos)]

/-- **never exceeds p_max** (flat profile): the amplified incoming power `Σ pᵢ·G`, in dBm, is at most `p_max`,
where `G` is the effective gain computed from the total input power. -/
theorem total_out_le_pmax (ps : List ℝ) (s pm : ℝ) (hne : ps ≠ []) (hpos : ∀ p ∈ ps, 0 < p) :
    watt2dbm (sumL (ps.map (fun p => p * db2lin (effGain s pm (watt2dbm (sumL ps)))))) ≤ pm := by
  rw [flat_total_gain ps _ hne hpos]
  exact effGain_clamp s pm _

/-! ### successive calls of one amplifier object: every call clamps from the SET gain (`callGains`); the counter-model
`callSeq` writes the clamped value back, as the code did before repair 37e30883 -/

/-- every call of one amplifier object applies the set gain reduced only as far as ITS spectrum needs, whatever was
propagated before or after -/
theorem callGains_history_free (s pm p : ℝ) (pre post : List ℝ) :
    (callGains s pm (pre ++ p :: post))[pre.length]? = some (effGain s pm p) := by
  simp [callGains]

/-- counter-model: the gain attribute after a sequence of calls is the largest gain that is at most the set gain and
respects `p_max` for every call made so far -/
theorem le_callSeq_iff (g s pm : ℝ) (pins : List ℝ) :
    g ≤ callSeq s pm pins ↔ g ≤ s ∧ ∀ p ∈ pins, p + g ≤ pm := by
  induction pins generalizing s with
  | nil => simp [callSeq]
  | cons p ps ih =>
    rw [callSeq, ih, effGain_eq, le_min_iff, le_sub_iff_add_le, List.forall_mem_cons, and_assoc, add_comm g p]

theorem callSeq_le_set (s pm : ℝ) (pins : List ℝ) : callSeq s pm pins ≤ s :=
  ((le_callSeq_iff _ s pm pins).1 le_rfl).1

theorem callSeq_clamp_last (s pm : ℝ) (pins : List ℝ) : ∀ p ∈ pins, p + callSeq s pm pins ≤ pm :=
  ((le_callSeq_iff _ s pm pins).1 le_rfl).2

theorem callSeq_first_call (s pm p : ℝ) : callSeq s pm [p] = effGain s pm p := rfl

/-- an amplifier that is never saturated keeps its set gain over any number of calls -/
theorem callSeq_unsaturated (s pm : ℝ) (pins : List ℝ) (h : ∀ p ∈ pins, p + s ≤ pm) : callSeq s pm pins = s :=
  (callSeq_le_set s pm pins).antisymm ((le_callSeq_iff s s pm pins).2 ⟨le_rfl, h⟩)

/-- counter-model: the written-back `effective_gain` only ever decreases, a reduction made by one call stays in force for
all later calls of the same object -/
theorem callSeq_persists (s pm p : ℝ) (ps : List ℝ) : callSeq s pm (p :: ps) ≤ effGain s pm p :=
  callSeq_le_set (effGain s pm p) pm ps

/-- counter-model of the repaired defect: when the clamped value overwrites the set gain, a cold spectrum after a hot
one is amplified less than it should be (set 20, p_max 23: +10 dBm then −10 dBm gives 13 dB, not 20 dB) -/
theorem callSeq_leaks_example : callSeq (20 : ℝ) 23 [10, -10] = 13 ∧ callGains (20 : ℝ) 23 [10, -10] = [13, 20] := by
  simp only [callSeq, callGains, effGain_eq, List.map]
  norm_num

/-! ### ASE (`noise_profile`) -/

/-- ASE added to a channel = `h · B · f · NF` (linear NF), at the amplifier input -/
theorem ase_formula (b f nf : ℝ) : ase b f (some nf) = planck * b * f * db2lin nf := rfl

/-- the OpenROADM booster (NF = −∞ dB) adds no noise -/
theorem ase_noiseless_booster (b f : ℝ) : ase b f none = 0 := by
  simp [ase, db2linE]

/-- the ASE is referred to the input: the channel leaves with `p·G + (h·B·f·NF)·G`, `G = db2lin(g − out_voa)` -/
theorem ase_referred_to_input (p b f nf g v : ℝ) :
    chanOut p (ase b f (some nf)) g v = p * db2lin (g - v) + planck * b * f * db2lin nf * db2lin (g - v) := by
  simp only [chanOut, ase, db2linE]; ring

/-! ### NF of min/max-NF (variable gain) amplifiers -/

/-- the code solves the two-coil system `N₁ + N₂/P = A`, `N₁ + N₂/Q = B` by `N₂ = (A−B)/(1/P−1/Q)`, `N₁ = A − N₂/P`:
the first equation holds by the choice of `N₁`, and this is the second, the one for `B` (in `nf_at_gmin`: `nf_max`) -/
private theorem twoCoil_max (A B : ℝ) {P Q : ℝ} (hPQ : P ≠ Q) :
    A - (A - B) / (1 / P - 1 / Q) / P + (A - B) / (1 / P - 1 / Q) / Q = B := by
  have hD : 1 / P - 1 / Q ≠ 0 := sub_ne_zero.2 (by rwa [one_div, one_div, Ne, inv_inj])
  calc _ = A - (A - B) / (1 / P - 1 / Q) * (1 / P - 1 / Q) := by ring
    _ = B := by rw [div_mul_cancel₀ _ hD, sub_sub_cancel]

/-- with `N₂ = (A−B)/(1/P−1/Q)`, the first-coil noise factor `N₁ = A − N₂/P` of the code's two-coil solution is
`(A·P − B·Q)/(P − Q)` -/
private theorem twoCoil_nf1 (A B : ℝ) {P Q : ℝ} (hP : P ≠ 0) (hQ : Q ≠ 0) (hPQ : P ≠ Q) :
    A - (A - B) / (1 / P - 1 / Q) / P = (A * P - B * Q) / (P - Q) := by
  field_simp
  ring

/-- the first-coil hypothesis of `nf_at_gmax`/`nf_at_gmin` in datasheet terms: it holds as soon as the NF spread
is smaller than twice the gain range, `nf_max − nf_min < 2·(gain_max − gain_min)` -/
theorem coil_pos_of_spread (gmin gmax a b : ℝ) (hg : gmin < gmax) (hab : a < b) (h : b - a < 2 * (gmax - gmin)) :
    0 < db2lin a - db2lin (estNf2 gmin gmax a b) / db2lin (gmax - 5) := by
  have hP := db2lin_pos (gmax - 5)
  have hQ := db2lin_pos (gmin - (gmax - gmin) - 5)
  have hQP := db2lin_g1aMin_lt hg
  -- B/A < P/Q, i.e. the numerator of `N₁ = (A·P − B·Q)/(P − Q)` is positive
  have hr : db2lin (b - a) < db2lin ((gmax - 5) - (gmin - (gmax - gmin) - 5)) := (db2lin_lt_iff _ _).2 (by linarith)
  rw [db2lin_sub, db2lin_sub, div_lt_div_iff₀ (db2lin_pos a) hQ] at hr
  rw [db2lin_estNf2 hg hab, twoCoil_nf1 _ _ hP.ne' hQ.ne' hQP.ne']
  exact div_pos (sub_pos.2 (by linarith)) (sub_pos.2 hQP)

/-- **NF = nf_min at maximum flat gain** for the unclipped `estimate_nf_model` solution
(`hcoil`: the first-coil noise factor is positive, which `estimate_nf_model` needs to take its logarithm) -/
theorem nf_at_gmax (gmin gmax a b : ℝ)
    (hcoil : 0 < db2lin a - db2lin (estNf2 gmin gmax a b) / db2lin (gmax - 5)) :
    nfVar (estNf1 gmin gmax a b) (estNf2 gmin gmax a b) 5 gmax gmax = a := by
  rw [nfVar_at_gmax, db2lin_estNf1 hcoil, sub_add_cancel, lin2db_db2lin]

/-- **NF = nf_max at minimum gain** for the unclipped solution -/
theorem nf_at_gmin (gmin gmax a b : ℝ) (hg : gmin < gmax) (hab : a < b)
    (hcoil : 0 < db2lin a - db2lin (estNf2 gmin gmax a b) / db2lin (gmax - 5)) :
    nfVar (estNf1 gmin gmax a b) (estNf2 gmin gmax a b) 5 gmax gmin = b := by
  rw [nfVar_at_gmin _ _ _ hg.le, db2lin_estNf1 hcoil, db2lin_estNf2 hg hab, twoCoil_max _ _ (db2lin_g1aMin_lt hg).ne',
    lin2db_db2lin]

/-- **NF is non-increasing with gain** (any two-coil model; all of `[gmin, ∞)` since there is no padding there) -/
theorem nf_antitone_in_gain (nf1 nf2 dp gmax g g' : ℝ) (h : g ≤ g') :
    nfVar nf1 nf2 dp gmax g' ≤ nfVar nf1 nf2 dp gmax g := by
  have hmono : g - dp - max (gmax - g) 0 ≤ g' - dp - max (gmax - g') 0 :=
    sub_le_sub (sub_le_sub_right h dp) (max_le_max (sub_le_sub_left h gmax) le_rfl)
  have h2 := db2lin_pos nf2
  have ha := db2lin_pos (g - dp - max (gmax - g) 0)
  have hb := db2lin_pos (g' - dp - max (gmax - g') 0)
  rw [nfVar_eq, nfVar_eq, lin2db_le_iff (add_pos (db2lin_pos _) (div_pos h2 hb)) (add_pos (db2lin_pos _) (div_pos h2 ha))]
  exact add_le_add le_rfl (div_le_div_of_nonneg_left h2.le ha ((db2lin_le_iff _ _).2 hmono))

/-! ### `estimate_nf_model` as a whole -/

/-- in its un-clipped branch `estimate_nf_model` returns exactly that solution with `delta_p = 5` -/
theorem estimate_unclipped (gmin gmax a b n1 n2 dp : ℝ)
    (h : estimateNfModel gmin gmax a b = .ok (n1, n2, dp)) (hr : (estCore gmin gmax a b).inRange = true) :
    n1 = estNf1 gmin gmax a b ∧ n2 = estNf2 gmin gmax a b ∧ dp = 5 := by
  obtain ⟨e2, e3⟩ := estCore_unclipped hr
  obtain ⟨-, -, e⟩ := estimateNfModel_eq_ok.1 h
  rw [e2, e3, Prod.mk.injEq, Prod.mk.injEq] at e
  exact ⟨e.1.symm, e.2.1.symm, e.2.2.symm⟩

/-- whichever branch is taken, an accepted model reproduces the datasheet values at both ends of the gain
range within the acceptance tolerance of `math.isclose(…, abs_tol=0.01)` -/
theorem estimate_accepts_close (gmin gmax a b n1 n2 dp : ℝ) (hg : gmin ≤ gmax)
    (h : estimateNfModel gmin gmax a b = .ok (n1, n2, dp)) :
    |a - nfVar n1 n2 dp gmax gmax| ≤ max (1 / 1000000000 * max |a| |nfVar n1 n2 dp gmax gmax|) (1 / 100) ∧
    |b - nfVar n1 n2 dp gmax gmin| ≤ max (1 / 1000000000 * max |b| |nfVar n1 n2 dp gmax gmin|) (1 / 100) := by
  obtain ⟨-, hclose, e⟩ := estimateNfModel_eq_ok.1 h
  obtain ⟨rfl, rfl, rfl⟩ := e
  rwa [estCore_calcMin, estCore_calcMax _ _ hg, ← isclose01_iff, ← isclose01_iff]

/-! ### what `_nf` returns: padding below minimum gain, the NF models of one stage, Friis' formula for two -/

/-- **below minimum gain NF grows dB for dB** (every NF model: the missing gain is input padding) -/
theorem nf_pad_db_for_db (s : Stage ℝ) (ld : Load ℝ) (g : ℝ) (h : g ≤ s.gainMin) :
    stageNf s ld g = ((nfCore s ld s.gainMin).map (fun x => x + (s.gainMin - g)), s.gainMin - g) := by
  rw [stageNf_eq, max_eq_left (sub_nonneg.2 h), add_sub_cancel]

theorem nf_no_pad (s : Stage ℝ) (ld : Load ℝ) (g : ℝ) (h : s.gainMin ≤ g) :
    stageNf s ld g = (nfCore s ld g, 0) := by
  rw [stageNf_eq, max_eq_right (sub_nonpos.2 h)]; simp

theorem stageNf_variableGain {nf1 nf2 dp gmin gmax g : ℝ} (ld : Load ℝ) (h : gmin ≤ g) :
    stageNf { model := .variableGain nf1 nf2 dp, gainMin := gmin, gainFlatmax := gmax } ld g
      = (some (nfVar nf1 nf2 dp gmax g), 0) := by
  rw [nf_no_pad _ _ _ h]; rfl

/-- NF of a min/max-NF amplifier is non-increasing with gain on `[gain_min, ∞)`, in the form `_nf` returns it -/
theorem nf_stage_antitone (nf1 nf2 dp gmin gmax g g' : ℝ) (ld : Load ℝ) (h0 : gmin ≤ g) (h : g ≤ g') :
    ∃ x y, stageNf { model := .variableGain nf1 nf2 dp, gainMin := gmin, gainFlatmax := gmax } ld g = (some x, 0) ∧
      stageNf { model := .variableGain nf1 nf2 dp, gainMin := gmin, gainFlatmax := gmax } ld g' = (some y, 0) ∧ y ≤ x :=
  ⟨_, _, stageNf_variableGain ld h0, stageNf_variableGain ld (h0.trans h),
    nf_antitone_in_gain nf1 nf2 dp gmax g g' h⟩

/-- min/max-NF amplifier built from the unclipped solution, stage form: `_nf` returns `(nf_min, 0)` at
maximum flat gain and `(nf_max, 0)` at minimum gain -/
theorem nf_stage_at_gmax_gmin (gmin gmax a b : ℝ) (ld : Load ℝ) (hg : gmin < gmax) (hab : a < b)
    (hcoil : 0 < db2lin a - db2lin (estNf2 gmin gmax a b) / db2lin (gmax - 5)) :
    let s : Stage ℝ := { model := .variableGain (estNf1 gmin gmax a b) (estNf2 gmin gmax a b) 5,
                         gainMin := gmin, gainFlatmax := gmax }
    stageNf s ld gmax = (some a, 0) ∧ stageNf s ld gmin = (some b, 0) := by
  intro s
  exact ⟨by rw [stageNf_variableGain ld hg.le, nf_at_gmax gmin gmax a b hcoil],
    by rw [stageNf_variableGain ld le_rfl, nf_at_gmin gmin gmax a b hg hab hcoil]⟩

/-- fixed-gain model: NF = nf0 (+ padding below minimum gain) -/
theorem nf_fixed_gain (nf0 gmin gmax g : ℝ) (ld : Load ℝ) :
    stageNf { model := .fixedGain nf0, gainMin := gmin, gainFlatmax := gmax } ld g
      = (some (nf0 + max (gmin - g) 0), max (gmin - g) 0) := by
  rw [stageNf_eq]; rfl

/-- advanced (polynomial) model at or above maximum flat gain: the constant coefficient -/
theorem nf_advanced_at_gmax (coef : List ℝ) (c gmin gmax g : ℝ) (ld : Load ℝ) (hm : gmin ≤ g) (h : gmax ≤ g) :
    stageNf { model := .advanced (coef ++ [c]), gainMin := gmin, gainFlatmax := gmax } ld g = (some c, 0) := by
  rw [nf_no_pad _ _ _ hm]
  simp only [nfCore, dgOf_eq, max_eq_right (sub_nonpos.2 h)]
  simp [polyval, List.foldl_append]

/-- OpenROADM ILA: `NF = pin − OSNR(pin) + 58` with the polynomial OSNR mask evaluated at the input power per
50 GHz channel -/
theorem nf_openroadm (coef : List ℝ) (gmin gmax g : ℝ) (ld : Load ℝ) (h : gmin ≤ g) :
    stageNf { model := .openroadm coef, gainMin := gmin, gainFlatmax := gmax } ld g
      = (some (pinCh50 ld - polyval coef (pinCh50 ld) + 58), 0) := by
  rw [nf_no_pad _ _ _ h]; simp only [nfCore, Nat.cast_ofNat]

/-- OpenROADM preamp: OSNR mask `min((4·pin + 275)/7, 33)` -/
theorem nf_openroadm_preamp (gmin gmax g : ℝ) (ld : Load ℝ) (h : gmin ≤ g) :
    stageNf { model := .openroadmPreamp, gainMin := gmin, gainFlatmax := gmax } ld g
      = (some (pinCh50 ld - min ((4 * pinCh50 ld + 275) / 7) 33 + 58), 0) := by
  rw [nf_no_pad _ _ _ h]; simp only [nfCore, smin_eq_min, Nat.cast_ofNat]

/-- dual stage: Friis' formula `F = F₁ + F₂ / G₁` -/
theorem dual_stage_friis (n1 n2 g1 : ℝ) :
    db2linE (dualNf (some n1) (some n2) g1) = db2lin n1 + db2lin n2 / db2lin g1 := by
  simp only [dualNf, db2linE, Option.map]
  rw [db2lin_lin2db (add_pos (db2lin_pos _) (db2lin_pos _)), db2lin_sub]

/-! ### ripple vectors (`interpol_params`: numpy `interp` over the amplifier band) -/

private theorem interpGo_const (c x x0 : ℝ) (l : List (ℝ × ℝ)) (hl : ∀ q ∈ l, q.2 = c) :
    interpGo x (x0, c) l = c := by
  induction l generalizing x0 with
  | nil => rfl
  | cons q qs ih =>
    obtain ⟨x1, f1⟩ := q
    obtain ⟨rfl, hqs⟩ := List.forall_mem_cons.1 hl
    rw [interpGo]
    split
    · simp
    · exact ih x1 hqs

/-- a constant ripple vector interpolates to that constant at every frequency (e.g. the default `nf_ripple = [0.0]`
and `gain_ripple = [0.0]`: every channel gets exactly the average NF / the flat gain) -/
theorem interp_const (xp fp : List ℝ) (c x : ℝ) (hne : xp.zip fp ≠ []) (h : ∀ f ∈ fp, f = c) :
    interp xp fp x = c := by
  have hz : ∀ q ∈ xp.zip fp, q.2 = c := fun q hq => h q.2 (List.of_mem_zip hq).2
  rw [interp]
  cases hzip : xp.zip fp with
  | nil => exact absurd hzip hne
  | cons q rest =>
    obtain ⟨x0, f0⟩ := q
    obtain ⟨rfl, hr⟩ := List.forall_mem_cons.1 (hzip ▸ hz)
    -- left of the first point numpy extrapolates with its value, from there on `interpGo` interpolates
    show (if x < x0 then f0 else interpGo x (x0, f0) rest) = f0
    split
    · rfl
    · exact interpGo_const _ x x0 rest hr

/-! ### gain profile (`_gain_profile`) -/

/-- **flat case**: no ripple and no tilt scaling ⇒ every channel gets exactly the effective gain -/
theorem flat_profile_exact (g : List ℝ) (c eff : ℝ) (hne : g ≠ []) (h : ∀ x ∈ g, x = c) :
    ∀ y ∈ flatProfile g eff, y = eff := by
  have hm : mean (g.map db2lin) = db2lin c :=
    mean_const _ _ (by simpa using hne) (List.forall_mem_map.2 fun w hw => congrArg db2lin (h w hw))
  refine List.forall_mem_map.2 fun x hx => ?_
  rw [voaOf, hm, lin2db_db2lin, h x hx, sub_sub_cancel]

/-- a one-channel spectrum gets the effective gain -/
theorem single_channel_profile (freqs dgt ripple pin : List ℝ) (eff gfm tilt fmin fmax pinDb : ℝ)
    (h : dgt.length = 1) :
    (gainProfile freqs dgt ripple pin eff gfm tilt fmin fmax pinDb).1 = [eff] := by
  simp [gainProfile, h]

/-- the whole `_gain_profile` in the flat configuration (tilt target 0, zero ripple): exact -/
theorem gain_profile_flat (freqs dgt ripple pin : List ℝ) (eff gfm fmin fmax pinDb : ℝ)
    (hlen : dgt.length ≠ 1) (hr : ∀ r ∈ ripple, r = 0) :
    ∀ y ∈ (gainProfile freqs dgt ripple pin eff gfm 0 fmin fmax pinDb).1, y = eff := by
  obtain ⟨d, hd, h⟩ := gainProfile_eq freqs dgt ripple pin eff gfm 0 fmin fmax pinDb hlen
  obtain rfl := hd rfl
  have hc : ∀ x ∈ g1st ripple dgt gfm 0, x = gfm := List.forall_mem_map.2 fun p hp => by
    rw [hr p.1 (List.of_mem_zip hp).1]; ring
  rw [h, maxL_sub_minL_const _ gfm hc, abs_zero, if_pos (by norm_num)]
  intro y hy
  have hne : g1st ripple dgt gfm 0 ≠ [] := fun h0 => by simp [h0, flatProfile] at hy -- its flat profile has the member `y`
  exact flat_profile_exact _ gfm eff hne hc y hy

private theorem shifted_zero {g dgt : List ℝ} {v : ℝ} (h : g.length ≤ dgt.length) :
    shifted g dgt v 0 = g.map (fun x => x - v) := by
  conv_rhs => rw [← List.map_fst_zip h, List.map_map]
  simp [shifted, Function.comp_def]

/-- **normalisation of the gain profile, the part that is proved under tilt/ripple**: the returned profile is the first
estimate shifted by the VOA plus ONE scalar multiple of the dynamic gain tilt (so its shape is exactly
`ripple + x'·dgt`).  Full statement (not provable: the code does one secant step, which only approximates it):
`watt2dbm (Σ pinᵢ·db2lin gᵢ) − pinDb = eff` for the returned `g`. -/
theorem gain_profile_normalised_partial (freqs dgt ripple pin : List ℝ) (eff gfm tilt fmin fmax pinDb : ℝ)
    (hlen : dgt.length ≠ 1) :
    ∃ d x : ℝ, (gainProfile freqs dgt ripple pin eff gfm tilt fmin fmax pinDb).1 =
      shifted (g1st ripple dgt gfm d) dgt (voaOf (g1st ripple dgt gfm d) eff) x := by
  obtain ⟨d, -, h⟩ := gainProfile_eq freqs dgt ripple pin eff gfm tilt fmin fmax pinDb hlen
  refine ⟨d, ?_⟩
  rw [h]
  split
  · refine ⟨0, (shifted_zero ?_).symm⟩
    simp only [g1st, List.length_map, List.length_zip]
    exact Nat.min_le_right _ _
  · exact ⟨_, rfl⟩

/-! ### average gain of the returned profile: the two cases where it is exact -/

theorem avgGain_map_add (pin g : List ℝ) (c pinDb : ℝ) (hne : pin.zip g ≠ []) (hpos : ∀ p ∈ pin, 0 < p) :
    avgGain pin (g.map (fun s => s + c)) pinDb = avgGain pin g pinDb + c := by
  have hs : (pin.zip (g.map (fun s => s + c))).map (fun q => q.1 * db2lin q.2)
      = ((pin.zip g).map (fun q => q.1 * db2lin q.2)).map (fun x => x * db2lin c) := by
    simp [List.zip_map_right, db2lin_add, mul_assoc]
  rw [avgGain, hs, flat_total_gain _ c (by simpa using hne)
    (List.forall_mem_map.2 fun q hq => mul_pos (hpos q.1 (List.of_mem_zip hq).1) (db2lin_pos q.2)), avgGain]
  ring

private theorem sumL_zip_replicate (f : ℝ → ℝ) (p : ℝ) (l : List ℝ) :
    sumL (((List.replicate l.length p).zip l).map (fun q => q.1 * f q.2)) = p * sumL (l.map f) := by
  induction l with
  | nil => simp [sumL]
  | cons x xs ih =>
    simp only [List.length_cons, List.replicate_succ, List.zip_cons_cons, List.map_cons, sumL, ih]
    ring

/-- with the same power on every channel the average gain is the mean of the linear gains -/
theorem avgGain_uniform (g : List ℝ) (p : ℝ) (hp : 0 < p) (hne : g ≠ []) :
    avgGain (List.replicate g.length p) g (watt2dbm (sumL (List.replicate g.length p)))
      = lin2db (mean (g.map db2lin)) := by
  have hn : (0:ℝ) < g.length := Nat.cast_pos.2 (List.length_pos_iff.2 hne)
  have hS : 0 < sumL (g.map db2lin) :=
    sumL_pos (by simpa using hne) (List.forall_mem_map.2 fun y _ => db2lin_pos y)
  rw [avgGain, sumL_zip_replicate, sumL_replicate, mean, List.length_map]
  calc watt2dbm (p * sumL (g.map db2lin)) - watt2dbm (g.length * p)
      = lin2db (p * sumL (g.map db2lin) * 1000 / (g.length * p * 1000)) := by
        rw [watt2dbm_eq, watt2dbm_eq,
          lin2db_div (mul_pos (mul_pos hp hS) (by norm_num)) (mul_pos (mul_pos hn hp) (by norm_num))]
    _ = lin2db (sumL (g.map db2lin) / g.length) := by
        rw [mul_div_mul_right _ _ (by norm_num), mul_comm p, mul_div_mul_right _ _ hp.ne']

/-- **uniform input, flat branch** (gain excursion ≤ 0.05 dB: no tilt, ripple-free or nearly): the profile the
code returns raises the total power by EXACTLY the effective gain -/
theorem flat_branch_total_gain (g1 : List ℝ) (p eff : ℝ) (hp : 0 < p) (hne : g1 ≠ []) :
    avgGain (List.replicate g1.length p) (flatProfile g1 eff)
      (watt2dbm (sumL (List.replicate g1.length p))) = eff := by
  have h := avgGain_map_add (List.replicate g1.length p) g1 (-voaOf g1 eff)
    (watt2dbm (sumL (List.replicate g1.length p))) (hne := by simpa [List.zip_eq_nil_iff] using hne)
    (hpos := fun q hq => by rw [List.eq_of_mem_replicate hq]; exact hp)
  simp only [← sub_eq_add_neg, avgGain_uniform g1 p hp hne] at h
  rw [flatProfile, h, voaOf, sub_sub_cancel]

/-- the whole `_gain_profile` with uniform input power and a gain excursion within 0.05 dB raises the total power by exactly
the effective gain -/
theorem gain_profile_normalised_uniform_flat (freqs dgt ripple : List ℝ) (p eff gfm tilt fmin fmax : ℝ)
    (hlen : dgt.length ≠ 1) (hp : 0 < p) (hz : ripple.zip dgt ≠ [])
    (hsmall : ∀ d, |maxL (g1st ripple dgt gfm d) - minL (g1st ripple dgt gfm d)| ≤ 5 / 100) :
    let n := (ripple.zip dgt).length
    avgGain (List.replicate n p)
      (gainProfile freqs dgt ripple (List.replicate n p) eff gfm tilt fmin fmax
        (watt2dbm (sumL (List.replicate n p)))).1
      (watt2dbm (sumL (List.replicate n p))) = eff := by
  intro n
  obtain ⟨d, -, h⟩ := gainProfile_eq freqs dgt ripple (List.replicate n p) eff gfm tilt fmin fmax
    (watt2dbm (sumL (List.replicate n p))) hlen
  rw [h, if_pos (hsmall d)]
  have hlen1 : (g1st ripple dgt gfm d).length = n := by simp [g1st, n]
  have := flat_branch_total_gain (g1st ripple dgt gfm d) p eff hp
    (List.ne_nil_of_length_pos (hlen1 ▸ List.length_pos_iff.2 hz))
  rwa [hlen1] at this

private theorem shifted_const (g dgt : List ℝ) (voa x d : ℝ) (hd : ∀ y ∈ dgt, y = d) :
    shifted g dgt voa x = (shifted g dgt voa 0).map (fun s => s + d * x) := by
  rw [shifted, shifted, List.map_map]
  refine List.map_congr_left fun q hq => ?_
  simp only [Function.comp, hd q.2 (List.of_mem_zip hq).2]; ring

/-- the secant step is exact on an affine average-gain function -/
theorem secantStep_affine (A : ℝ → ℝ) (a0 d eff xc δ : ℝ) (hA : ∀ x, A x = a0 + d * x) (hd : d ≠ 0) (hδ : δ ≠ 0) :
    |A (secantStep A eff xc δ) - eff| ≤ 1 / 100000000000 := by
  -- both secant slopes of an affine function are its slope
  have hs : ∀ x y, x - y ≠ 0 → (A x - A y) / (x - y) = d := fun x y h => by
    rw [hA, hA, add_sub_add_left_eq_sub, ← mul_sub, mul_div_cancel_right₀ _ h]
  have hs1 := hs (xc - δ) xc (by rwa [sub_sub_cancel_left, neg_ne_zero])
  have hs2 := hs xc (xc + δ) (by rwa [sub_add_cancel_left, neg_ne_zero])
  simp only [secantStep, hs1, hs2, transc_abs, cTol, Nat.cast_one, Nat.cast_ofNat]
  have h0 : |(0:ℝ)| ≤ 1 / 100000000000 := by rw [abs_zero]; norm_num
  split_ifs with h
  · rwa [abs_sub_comm]
  · rwa [hA (xc - _), mul_sub, mul_div_cancel₀ _ hd, ← add_sub_assoc, ← hA xc, sub_sub_cancel, sub_self]
  · rwa [hA (xc + _), mul_add, mul_div_cancel₀ _ hd, ← add_assoc, ← hA xc, add_neg_cancel_left, sub_self]

/-- **constant dynamic gain tilt over the loaded channels, any input spectrum, tilt/ripple branch**: the average
gain is affine in the DGT scale, the secant step is exact, and the returned profile raises the total power by the
effective gain within the code's own tolerance `1e-11` dB.  (For a non-constant DGT the average gain is a strictly
convex log-sum-exp of the scale and one secant step is only approximate: `gain_profile_normalised_partial`.) -/
theorem gain_profile_normalised_const_dgt (freqs dgt ripple pin : List ℝ) (eff gfm tilt fmin fmax pinDb d : ℝ)
    (hlen : dgt.length ≠ 1) (hd : ∀ y ∈ dgt, y = d) (hd0 : d ≠ 0) (hpos : ∀ p ∈ pin, 0 < p)
    (hne : pin.zip (ripple.zip dgt) ≠ [])
    (hbig : ∀ k, ¬ |maxL (g1st ripple dgt gfm k) - minL (g1st ripple dgt gfm k)| ≤ 5 / 100) :
    |avgGain pin (gainProfile freqs dgt ripple pin eff gfm tilt fmin fmax pinDb).1 pinDb - eff| ≤ 1 / 100000000000 := by
  obtain ⟨k, -, h⟩ := gainProfile_eq freqs dgt ripple pin eff gfm tilt fmin fmax pinDb hlen
  rw [h, if_neg (hbig k)]
  set g1 := g1st ripple dgt gfm k
  set voa := voaOf g1 eff
  have hz : pin.zip (shifted g1 dgt voa 0) ≠ [] := by
    simpa [shifted, g1, g1st, List.zip_eq_nil_iff] using hne
  have hA : ∀ x, avgGain pin (shifted g1 dgt voa x) pinDb = avgGain pin (shifted g1 dgt voa 0) pinDb + d * x :=
    fun x => by rw [shifted_const g1 dgt voa x d hd, avgGain_map_add _ _ _ _ hz hpos]
  have hδ : maxL g1 - minL g1 ≠ 0 := fun h0 => hbig k (by rw [h0, abs_zero]; norm_num)
  exact secantStep_affine (fun x => avgGain pin (shifted g1 dgt voa x) pinDb) _ d eff _ _ hA hd0 hδ

/-! ### band filter, `__call__`, multiband node -/

/-- **out-of-band channels are not amplified**: every channel that is kept lies inside the amplifier band -/
theorem out_of_band_dropped (fmin fmax : Nat) (cs : List (Chan ℝ)) (c : Chan ℝ) (h : c ∈ demux fmin fmax cs) :
    2 * fmin + c.slot ≤ 2 * c.f ∧ 2 * c.f + c.slot ≤ 2 * fmax :=
  ((mem_demux fmin fmax cs c).1 h).2

theorem in_band_kept (fmin fmax : Nat) (cs : List (Chan ℝ)) (c : Chan ℝ) (hc : c ∈ cs)
    (h1 : 2 * fmin + c.slot ≤ 2 * c.f) (h2 : 2 * c.f + c.slot ≤ 2 * fmax) : c ∈ demux fmin fmax cs :=
  (mem_demux fmin fmax cs c).2 ⟨hc, h1, h2⟩

/-- the kept channels are a sub-list of the input (order preserved, nothing invented or duplicated) -/
theorem demux_sublist (fmin fmax : Nat) (cs : List (Chan ℝ)) : (demux fmin fmax cs).Sublist cs :=
  List.filter_sublist

/-- the amplifier rejects the spectrum (ValueError) exactly when no channel lies in its band -/
theorem call_none_iff_no_channel_in_band (a : Amp ℝ) (o : Oper ℝ) (cs : List (Chan ℝ)) :
    call a o cs = none ↔ ∀ c ∈ cs, inBand a.fMin a.fMax c.f c.slot = false := by
  simp only [call_eq_none_iff, demux, List.filter_eq_nil_iff, Bool.not_eq_true]

/-- when the amplifier accepts the spectrum, the frequencies it returns are those of the in-band channels, the input
power is theirs (after the input VOA), and the clamp holds for the gain it reports -/
theorem call_spec (a : Amp ℝ) (o : Oper ℝ) (cs : List (Chan ℝ)) (r : Out ℝ) (h : call a o cs = some r) :
    r.kept = (demux a.fMin a.fMax cs).map (fun c => c.f) ∧
    r.pinDb = watt2dbm (sumL ((demux a.fMin a.fMax cs).map (fun c => attenuate o.inVoa c.p))) ∧
    r.effGain = effGain o.gain a.pMax r.pinDb ∧ r.effGain ≤ o.gain ∧ r.pinDb + r.effGain ≤ a.pMax := by
  simp only [call] at h
  split at h
  · cases h
  · obtain rfl := Option.some.inj h
    -- the first three are fields of the record `call` builds
    exact ⟨rfl, rfl, rfl, effGain_le_set _ _ _, effGain_clamp _ _ _⟩

/-- a `Multiband_amplifier` rejects the spectrum exactly when none of its amplifiers has a channel in its band -/
theorem multiCall_none_iff (amps : List (Amp ℝ × Oper ℝ)) (cs : List (Chan ℝ)) :
    multiCall amps cs = none ↔ ∀ ao ∈ amps, call ao.1 ao.2 cs = none := by
  simp only [multiCall, List.isEmpty_iff, ite_eq_left_iff, reduceCtorEq, imp_false, not_not, List.filterMap_eq_nil_iff]

/-- every partial output of a `Multiband_amplifier` is the output of one of its amplifiers on the whole input
(so `call_spec`, the clamp and the band filter hold per band, each amplifier seeing the power of its own band) -/
theorem multiCall_per_band (amps : List (Amp ℝ × Oper ℝ)) (cs : List (Chan ℝ)) (outs : List (Out ℝ))
    (h : multiCall amps cs = some outs) :
    ∀ r ∈ outs, ∃ ao ∈ amps, call ao.1 ao.2 cs = some r ∧ r.effGain ≤ ao.2.gain ∧ r.pinDb + r.effGain ≤ ao.1.pMax := by
  simp only [multiCall, Option.ite_none_left_eq_some, Option.some.injEq] at h
  obtain ⟨-, rfl⟩ := h
  intro r hr
  obtain ⟨ao, hao, hc⟩ := List.mem_filterMap.1 hr
  exact ⟨ao, hao, hc, (call_spec ao.1 ao.2 cs r hc).2.2.2⟩

/-- **never exceeds p_max, per band**: in a `Multiband_amplifier` every band amplifier clamps on the power of the
channels of ITS OWN band: with a flat profile the amplified incoming power of each band is at most that band
amplifier's p_max, whatever the other bands carry, and a band that does not saturate keeps its set gain -/
theorem multiband_total_out_le_pmax_per_band (amps : List (Amp ℝ × Oper ℝ)) (cs : List (Chan ℝ)) (outs : List (Out ℝ))
    (h : multiCall amps cs = some outs) :
    ∀ r ∈ outs, ∃ ao ∈ amps, call ao.1 ao.2 cs = some r ∧
      (let ps := (demux ao.1.fMin ao.1.fMax cs).map (fun c => attenuate ao.2.inVoa c.p)
       r.pinDb = watt2dbm (sumL ps) ∧
       ((∀ p ∈ ps, 0 < p) →
          watt2dbm (sumL (ps.map (fun p => p * db2lin r.effGain))) ≤ ao.1.pMax ∧
          (r.pinDb + ao.2.gain ≤ ao.1.pMax → r.effGain = ao.2.gain))) := by
  intro r hr
  obtain ⟨ao, hao, hc, -⟩ := multiCall_per_band amps cs outs h r hr
  obtain ⟨-, hpin, heff, -⟩ := call_spec ao.1 ao.2 cs r hc
  refine ⟨ao, hao, hc, hpin, fun hpos => ?_⟩
  have hne : (demux ao.1.fMin ao.1.fMax cs).map (fun c => attenuate ao.2.inVoa c.p) ≠ [] := fun h0 =>
    Option.some_ne_none r (hc.symm.trans ((call_eq_none_iff ..).2 (List.map_eq_nil_iff.1 h0)))
  rw [heff, hpin]
  exact ⟨total_out_le_pmax _ _ _ hne hpos, (effGain_eq_set_iff _ _ _).2⟩

/-! ### dual-stage library entries (`_update_dual_stage`) -/

/-- **a dual-stage amplifier saturates at its BOOSTER stage's p_max** (and offers the sum of both flat gains) -/
theorem dual_stage_limits (pre boost : StageLimits ℝ) (gmin : ℝ) (d : DualLimits ℝ)
    (h : updateDualStage pre boost gmin = some d) :
    d.pMax = boost.pMax ∧ d.gainFlatmax = boost.gainFlatmax + pre.gainFlatmax ∧ d.gainMin = gmin ∧
      pre.gainMin ≤ gmin := by
  simp only [updateDualStage, Option.ite_none_right_eq_some, Option.some.injEq, dualStageOk, Bool.not_eq_true',
    decide_eq_false_iff_not, not_lt] at h
  obtain ⟨hok, rfl⟩ := h
  exact ⟨rfl, rfl, rfl, hok⟩

/-- the amplified incoming power of a dual-stage amplifier never exceeds the booster stage's p_max, whatever
the preamp stage's p_max is, and the set gain is cut back exactly to it under saturation -/
theorem dual_stage_total_out_le_booster_pmax (pre boost : StageLimits ℝ) (gmin s : ℝ) (d : DualLimits ℝ)
    (ps : List ℝ) (h : updateDualStage pre boost gmin = some d) (hne : ps ≠ []) (hpos : ∀ p ∈ ps, 0 < p) :
    watt2dbm (sumL (ps.map (fun p => p * db2lin (effGain s d.pMax (watt2dbm (sumL ps)))))) ≤ boost.pMax ∧
    (boost.pMax < watt2dbm (sumL ps) + s → watt2dbm (sumL ps) + effGain s d.pMax (watt2dbm (sumL ps)) = boost.pMax) := by
  obtain ⟨hp, _⟩ := dual_stage_limits pre boost gmin d h
  rw [hp]
  exact ⟨total_out_le_pmax ps s boost.pMax hne hpos, effGain_reduced_exact s boost.pMax _⟩

/-- rejected exactly when the entry's minimum gain is below its preamp's -/
theorem dual_stage_rejected_iff (pre boost : StageLimits ℝ) (gmin : ℝ) :
    updateDualStage pre boost gmin = none ↔ gmin < pre.gainMin := by
  simp [updateDualStage, dualStageOk]

/-! ### non-vacuity -/
example : updateDualStage (⟨23, 26, 15⟩ : StageLimits ℝ) ⟨25, 16, 8⟩ 25 = some ⟨25, 16 + 26, 25⟩ := by
  simp [updateDualStage, dualStageOk]
  norm_num
example : effGain (20:ℝ) 23 10 = 13 := by rw [effGain_eq]; norm_num
example : effGain (20:ℝ) 23 (-10) = 20 := by rw [effGain_eq]; norm_num
example : callSeq (20:ℝ) 23 [10, -10] = 13 := callSeq_leaks_example.1
/-- the stock `std_medium_gain` datasheet (15–26 dB, NF 6–10 dB) satisfies every hypothesis of `nf_at_gmax`/`nf_at_gmin` -/
example : nfVar (estNf1 15 26 6 10) (estNf2 15 26 6 10) 5 26 26 = (6:ℝ) ∧
    nfVar (estNf1 15 26 6 10) (estNf2 15 26 6 10) 5 26 15 = (10:ℝ) := by
  have hc := coil_pos_of_spread 15 26 6 10 (by norm_num) (by norm_num) (by norm_num)
  exact ⟨nf_at_gmax 15 26 6 10 hc, nf_at_gmin 15 26 6 10 (by norm_num) (by norm_num) hc⟩
example : inBand 191275000000000 196125000000000 193000000000000 50000000000 = true := by decide
example : inBand 191275000000000 196125000000000 191290000000000 50000000000 = false := by decide

end Gnpy.Edfa
