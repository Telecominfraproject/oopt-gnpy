import GnpyModel
import GnpyProofs.Lemmas.Design
import GnpyProofs.Props.C08
import GnpyProofs.Props.C09
/- Property theorems for C17 — designing is repeatable: export, reload and redesign changes nothing; the simulation
   parameters are left as found.  Models: GnpyModel/Redesign.lean on top of Chain.lean / Design.lean. -/
namespace Gnpy.Chain

/-! ### the design is a function of its input -/

/-- designing the same input twice gives the same output (the model is a function; what lives in object identity —
shared equipment objects, cached attributes — is checked by the monitor only) -/
theorem design_deterministic (c c' : Cfg ℝ) (pref prefTotal src : ℝ) (d : Bool) (l l' : List (Elem ℝ))
    (s s' : List (Sel ℝ)) (hc : c = c') (hl : l = l') (hs : s = s') :
    designLine c pref prefTotal src d l s = designLine c' pref prefTotal src d l' s' := by
  subst hc hl hs
  rfl

/-! ### completing a completed line changes nothing -/

section
-- for every scalar type of the model, as in Lemmas/ChainList.lean
set_option linter.unusedSectionVars false
variable {α : Type} [Add α] [Sub α] [Mul α] [Div α] [Neg α] [NatCast α] [LT α] [LE α]
  [DecidableLT α] [DecidableLE α] [Transc α]

/-- no new in-line amplifier where no fibre follows a fibre -/
theorem addInline_fixpoint (m : Bool) (l : List (Elem α)) (h : NoAdjFib l) : addInline m l = l := by
  fun_induction addInline m l with
  | case1 => rfl
  | case2 u p v q t ih => exact absurd ⟨rfl, rfl⟩ (List.isChain_cons_cons.1 h).1
  | case3 x rest hne ih => rw [ih (List.isChain_cons.1 h).2]

/-- fibres shorter than `max_length` are not split again -/
theorem split_fixpoint (c : SplitCfg α) (l : List (Elem α))
    (h : ∀ u p, Elem.fiber u p ∈ l → p.length < c.hi) : splitLine c l = l := by
  -- every element is split into itself
  rw [splitLine, List.flatMap_congr (g := fun x => [x]), List.flatMap_singleton']
  intro x hx
  cases x with
  | fiber u p => simp [splitElem, splitFiber, calcNewLength, calcWith, h u p hx]
  | _ => rfl

/-- **`add_missing_elements_in_network` is idempotent on a completed line** (all spans below `max_length`, no fibre
next to a fibre or to a ROADM): a reloaded design receives no new element -/
theorem addMissing_fixpoint (c : SplitCfg α) (ch : Chain α)
    (hlen : ∀ u p, Elem.fiber u p ∈ ch.line → p.length < c.hi)
    (hadj : NoAdjFib ch.line)
    (hhead : ch.srcKind = .roadm → ∀ e t, ch.line = e :: t → e.isFiber = false)
    (hlast : ch.dstKind = .roadm → ∀ e, ch.line.getLast? = some e → e.isFiber = false) :
    addMissingLine c ch = ch.line := by
  have hhead' : ch.srcKind = .roadm → ∀ e, ch.line.head? = some e → e.isFiber = false :=
    fun hk e he => (List.head?_eq_some_iff.1 he).elim fun t ht => hhead hk e t ht
  rw [addMissingLine, split_fixpoint c ch.line hlen, addPreamp_eq_self hlast, addBooster_eq_self hhead']
  exact addInline_fixpoint _ _ hadj

end

/-- **with EOL = 0 `add_connector_loss` leaves defined connectors alone** -/
theorem addConn_fixpoint (dIn dOut : ℝ) (l : List (Elem ℝ)) (h : ∀ e ∈ l, ConnOK e) : addConn dIn dOut 0 l = l := by
  induction l with
  | nil => rfl
  | cons x rest ih =>
    rw [List.forall_mem_cons] at h
    simp only [addConn, ih h.2]
    cases x with
    | fiber u p =>
      obtain ⟨len, lc, ci, co, ai, lu, ra, rg, ds⟩ := p
      obtain ⟨ci, rfl⟩ := Option.isSome_iff_exists.1 h.1.1
      obtain ⟨co, rfl⟩ := Option.isSome_iff_exists.1 h.1.2
      simp only [Option.getD_some]
      split <;> simp only [add_zero]
    | _ => rfl

/-- padding a padded span again changes nothing (with or without a user `att_in`) -/
theorem padding_fixpoint (padding : ℝ) (r : List (Elem ℝ)) (u : String) (p : FiberP ℝ) (v : String) (q : FiberP ℝ)
    (t : List (Elem ℝ)) (hr : r = .fiber v q :: t) (hl : r.getLast? = some (.fiber u p)) (hnr : p.raman = false) :
    padRun padding (padRun padding r) = padRun padding r :=
  padRun_idempotent_all padding r

/-- **`add_fiber_padding` is idempotent on a whole line**: the padded line splits into the padded runs
(`runs_addPadding`), and padding each of them again changes nothing — so the redesign of an exported network
pads nothing and caches the same `design_span_loss` values. -/
theorem addPadding_idempotent (padding : ℝ) (l : List (Elem ℝ)) :
    addPadding padding (addPadding padding l) = addPadding padding l := by
  rw [addPadding, runs_addPadding, List.map_map, addPadding]
  exact congrArg _ (List.map_congr_left fun r _ => padRun_idempotent_all padding r)

/-! ### the amplifier recurrence re-derives the exported operating point -/

/-- one amplifier: fed with its own exported settings (selected type_variety, gain, delta_p, out_voa, in_voa) and the
same incoming net offset, `set_one_amplifier` returns the same operating point — provided the first design left
the amplifier at or below p_max (both modes) -/
theorem ampStep_fixpoint (c : Cfg ℝ) (pref prefTotal pd pv pd' pv' : ℝ) (a : AmpIn ℝ)
    (hoff : pd' - pv' = pd - pv)
    (hfitP : c.powerMode = true → prefTotal + (ampStep c pref prefTotal pd pv a).dpInt ≤ a.sel.pMax)
    (hfitG : c.powerMode = false →
      prefTotal + pd - a.nodeLoss - pv + (ampStep c pref prefTotal pd pv a).gain ≤ a.sel.pMax) :
    SamePoint (ampStep c pref prefTotal pd pv a)
      (ampStep c pref prefTotal pd' pv' (reuseAmp a (ampStep c pref prefTotal pd pv a))) ∧
    (ampStep c pref prefTotal pd' pv' (reuseAmp a (ampStep c pref prefTotal pd pv a))).retDp
      - (ampStep c pref prefTotal pd' pv' (reuseAmp a (ampStep c pref prefTotal pd pv a))).retVoa
      = (ampStep c pref prefTotal pd pv a).retDp - (ampStep c pref prefTotal pd pv a).retVoa := by
  have hb := gain_closes_budget c pref prefTotal pd pv a
  have hn := net_offset c pref prefTotal pd pv a
  have hdel := ampStep_deltaP c pref prefTotal pd pv a
  have hdel' := ampStep_deltaP c pref prefTotal pd' pv' (reuseAmp a (ampStep c pref prefTotal pd pv a))
  -- from here on the first design's result is any record `o` with these four facts and the two `hfit`
  generalize ampStep c pref prefTotal pd pv a = o at *
  obtain ⟨h1, h2, h3, h4, h5⟩ := ampStep_imposed c pref prefTotal pd' pv' (reuseAmp a o) o.outVoa o.gain o.dpInt
    (hvar := reuseAmp_variety a o) (hov := rfl) (hg := rfl)
    (hd := fun hm => by
      rw [hm] at hdel
      exact hdel)
    (hbud := by
      show _ = a.nodeLoss + _ - pd' + pv' + o.inVoa
      linarith)
    (hfit := by
      cases hm : c.powerMode
      · have := hfitG hm
        simp only [reuseAmp, Bool.false_eq_true, if_false]
        linarith
      · exact hfitP hm)
  exact ⟨⟨h1, h2, h3, by rw [hdel', h2, hdel], ampStep_inVoa c pref prefTotal pd' pv' (reuseAmp a o)⟩,
    by rw [h4, h5, hn]⟩

/-- **Redesign fixpoint (EOL = 0, export not rounded).** Along any OMS, the second design walk — every amplifier
carrying the operating point the first design exported, the spans unchanged (`addMissing_fixpoint`,
`addConn_fixpoint`, `padding_fixpoint`) — re-derives gain, `_delta_p`, `delta_p`, `out_voa` and `in_voa` of every
amplifier, whatever the mix of user settings, provided no amplifier was left above p_max (`FitsAll`). -/
theorem redesign_fixpoint (c : Cfg ℝ) (pref prefTotal : ℝ) :
    ∀ (inputs : List (AmpIn ℝ)) (pd pv pd' pv' : ℝ), pd' - pv' = pd - pv → FitsAll c pref prefTotal pd pv inputs →
      ∀ oo ∈ redesignAmps c pref prefTotal pd pv pd' pv' inputs, SamePoint oo.1 oo.2 := by
  intro inputs
  induction inputs with
  | nil => intro _ _ _ _ _ _ oo h; cases h
  | cons a rest ih =>
    intro pd pv pd' pv' hoff hfit oo hmem
    obtain ⟨hP, hG, hrest⟩ := hfit
    obtain ⟨hsame, hnext⟩ := ampStep_fixpoint c pref prefTotal pd pv pd' pv' a hoff hP hG
    rcases List.mem_cons.1 hmem with rfl | h
    · exact hsame
    · exact ih _ _ _ _ hnext hrest oo h

/-! ### the export rounding -/

/-- size of the export rounding: gains are written with an error of at most 5e-7 dB, span lengths with at most 0.5 mm,
loss coefficients with at most 5e-10 dB/m.  (Partial: that a second design starting from the ROUNDED values stays within
this rounding is not proved; `redesign_fixpoint` is exact for an export that is not rounded.) -/
theorem export_rounding_partial (x : ℝ) (p : FiberP ℝ) :
    |round6 x - x| ≤ 1 / 2000000 ∧ |(exportFiber p).length - p.length| ≤ 1 / 2000 ∧
    |(exportFiber p).lossCoef - p.lossCoef| ≤ 1 / 2000000000 := by
  refine ⟨abs_round6_sub_le x, ?_, ?_⟩ <;> simp only [exportFiber, thousand, Nat.cast_ofNat]
  · have h := abs_sub_mul_le (abs_round6_sub_le (p.length / 1000)) (show (0:ℝ) ≤ 1000 by norm_num)
    rw [div_mul_cancel₀ _ (by norm_num)] at h
    exact h.trans (by norm_num)
  · have h := abs_sub_mul_le (abs_round6_sub_le (p.lossCoef * 1000)) (show (0:ℝ) ≤ 1000⁻¹ by norm_num)
    rw [mul_inv_cancel_right₀ (by norm_num), ← div_eq_mul_inv] at h
    exact h.trans (by norm_num)

/-! ### K1: with EOL ≠ 0 every round adds EOL again -/

/-- each pass of `add_connector_loss` over a fibre that is not followed by a Fused adds `EOL` to its `con_out` -/
theorem redesign_eol_drift (dIn dOut eol co : ℝ) (u : String) (p : FiberP ℝ) (hco : p.conOut = some co) :
    addConn dIn dOut eol [.fiber u p]
      = [.fiber u { p with conIn := some (p.conIn.getD dIn), conOut := some (co + eol) }] := by
  simp [addConn, hco]

/-- **Current code (known finding K1):** EOL = 1 dB — the fibre leaves the first design with con_out = 1, the
redesign of the exported network with con_out = 2: `add_connector_loss` is not idempotent -/
theorem redesign_eol_counterexample :
    ∃ (l : List (Elem ℝ)), addConn 0 0 1 (addConn 0 0 1 l) ≠ addConn 0 0 1 l ∧
      (addConn 0 0 1 l).map Elem.loss = [17] ∧ (addConn 0 0 1 (addConn 0 0 1 l)).map Elem.loss = [18] := by
  refine ⟨[.fiber "f" { length := 80, lossCoef := 0.2, conIn := none, conOut := none, attIn := 0, lumps := [],
                        raman := false, ramanGain := none, dsl := none }], ?_, ?_, ?_⟩
  · simp [addConn]
  · simp [addConn, Elem.loss, FiberP.loss, FiberP.lumped, sumLeft_eq_sum]; norm_num
  · simp [addConn, Elem.loss, FiberP.loss, FiberP.lumped, sumLeft_eq_sum]; norm_num

/-! ### SimParams: `estimate_raman_gain` saves, overwrites and restores the process-wide simulation parameters -/

/-- **`estimate_raman_gain` leaves the simulation parameters as it found them**: restore ∘ save = id on all ten fields,
for every state whose NLI method is in lower case (every state built by `set_params` is) -/
theorem simparams_restored (lower : String → String) (dflt : SimState) (ramanOn : RamanParams) (s : SimState)
    (hs : lower s.nli.method = s.nli.method) :
    (estimateRamanGainParams lower dflt ramanOn s).2 = s := by
  -- of the ten fields only the NLI method goes through a function (`lower`), and `hs` says that it stays
  obtain ⟨n, r⟩ := s
  simp only [estimateRamanGainParams, setParams, saveParams, mkNLI, mkRaman, show lower n.method = n.method from hs]

/-- the simulation parameters are restored after ANY prior setting made through `SimParams.set_params` (complete,
partial or empty) -/
theorem simparams_restored_any_prior (lower : String → String) (hl : ∀ m, lower (lower m) = lower m)
    (dflt : SimState) (hd : lower dflt.nli.method = dflt.nli.method) (ramanOn : RamanParams)
    (n : Option NLIParams) (r : Option RamanParams) :
    (estimateRamanGainParams lower dflt ramanOn (setParams lower dflt n r)).2 = setParams lower dflt n r := by
  apply simparams_restored
  cases n with
  | none => simpa [setParams] using hd
  | some x => simp [setParams, mkNLI, hl]

/-- the simulation parameters are restored after any number of RamanFibers estimated one after the other -/
theorem simparams_restored_many (lower : String → String) (dflt : SimState) (ramanOn : RamanParams) (k : Nat)
    (s : SimState) (hs : lower s.nli.method = s.nli.method) :
    estimateMany lower dflt ramanOn k s = s := by
  induction k with
  | zero => rfl
  | succ k ih => rw [estimateMany, simparams_restored lower dflt ramanOn s hs, ih]

/-- what the solver sees in between: the Raman settings of the estimate, default NLI settings -/
theorem simparams_during (lower : String → String) (dflt : SimState) (ramanOn : RamanParams) (s : SimState) :
    (estimateRamanGainParams lower dflt ramanOn s).1 = { nli := dflt.nli, raman := ramanOn } := by
  simp [estimateRamanGainParams, setParams, mkRaman]

/-! ### reload of an exported document -/

/-- a document whose connections mention an element that is not in it is rejected on reload (malformed stream) -/
theorem reload_rejects_dangling (uids : List String) (cxs : List (String × String)) (c : String × String)
    (hc : c ∈ cxs) (hmiss : c.1 ∉ uids ∨ c.2 ∉ uids) : reloadAccepts uids cxs = false := by
  unfold reloadAccepts
  rw [List.all_eq_false]
  refine ⟨c, hc, ?_⟩
  rcases hmiss with h | h <;> simp [h]

/-! ### what the export keeps: lumped losses of fibres, design bands of ROADMs -/

/-- export + reload is the identity on the lumped losses of a fibre (positions and values), hence on their sum, and on
`att_in` and the connector losses: nothing of the span's discrete losses is lost in a saved design -/
theorem export_keeps_lumped_losses (p : FiberP ℝ) :
    (exportFiber p).lumps = p.lumps ∧ (exportFiber p).lumped = p.lumped ∧ (exportFiber p).attIn = p.attIn ∧
    (exportFiber p).conIn = p.conIn ∧ (exportFiber p).conOut = p.conOut := by
  simp [exportFiber, FiberP.lumped]

/-- the export as it was before the repair lost them: a 149 km fibre with lumped 0.5 dB + 2 dB came back 2.5 dB shorter
(the witness of the finding export-drops-lumped-losses) -/
theorem export_drops_lumped_losses_fails_old :
    ∃ p : FiberP ℝ, (exportFiberOld p).lumped = 0 ∧ p.lumped = 5 / 2 := by
  refine ⟨{ length := 149000, lossCoef := 0.0002, conIn := some 0.5, conOut := some 0, attIn := 3,
            lumps := [(1, 0.5), (12.13, 2)], raman := false, ramanGain := none, dsl := none }, ?_, ?_⟩
  · simp [exportFiberOld, FiberP.lumped, sumLeft_eq_sum]
  · simp only [FiberP.lumped, sumLeft_eq_sum]
    norm_num

/-- export + reload is the identity on the design bands a user gave to a ROADM (one or several) -/
theorem export_reload_design_bands (si : DesignBand) (bs : List DesignBand) (h : bs ≠ []) :
    reloadBands si (exportBands bs) = bs := by
  simp [reloadBands, exportBands, h]

/-- the reloaded network is designed for the same load: the channel count of a single own design band, counted
with that band's own spacing, is the same before and after export/reload -/
theorem export_reload_design_load (nbRef : Option Int) (si b : DesignBand) :
    reloadedChannels nbRef si (exportBands [b]) = designChannels nbRef b.fmin b.fmax b.spacing := by
  simp [reloadedChannels, reloadBands, exportBands]

/-- the export as it was before the repair wrote design bands only when there were several: a ROADM with ONE own band on
a 100 GHz grid (38 channels) came back with the band of the SI section (76 channels) - the witness of the finding
export-drops-single-design-band -/
theorem export_single_design_band_fails_old :
    ∃ si b : DesignBand, reloadedChannels none si (exportBandsOld [b]) = 76 ∧
      designChannels none b.fmin b.fmax b.spacing = 38 := by
  refine ⟨⟨191300000000000, 195100000000000, 50000000000⟩, ⟨191300000000000, 195100000000000, 100000000000⟩, ?_, ?_⟩
  · decide
  · decide

/-- a transceiver that states design bands: export + reload gives them back, whatever bands the amplifiers
chosen by the first design have -/
theorem export_reload_design_bands_transceiver (fromAmps bs : List DesignBand) (h : bs ≠ []) :
    reloadBandsTrx fromAmps (exportBands bs) = bs := by
  simp [reloadBandsTrx, exportBands, h]

/-- the transceiver export as it was before the repair dropped them: the reloaded line was designed for the (wider) bands
of its amplifiers - the witness of the finding export-drops-transceiver-design-bands (C band stated up to 195.1 THz,
amplifiers reaching 196.1 THz) -/
theorem export_transceiver_design_bands_fails_old :
    ∃ fromAmps bs : List DesignBand, bs ≠ [] ∧ reloadBandsTrx fromAmps (exportBandsTrxOld bs) ≠ bs := by
  refine ⟨[⟨191300000000000, 196100000000000, 50000000000⟩], [⟨191300000000000, 195100000000000, 50000000000⟩], ?_, ?_⟩
  · decide
  · decide

/-! ### non-vacuity -/

/-- `FitsAll`, the hypothesis of `redesign_fixpoint`, holds on a two-amplifier OMS (the same auto-designed amplifier
record twice) -/
example : ∃ (c : Cfg ℝ) (inputs : List (AmpIn ℝ)), inputs.length = 2 ∧ FitsAll c 0 18 (-20) 0 inputs := by
  let c : Cfg ℝ := { powerMode := true, dpLo := 0, dpHi := 0, dpStep := 0, lossRef := 20, slope := 0.3,
                     voaMargin := 1, voaStep := 0.5, extGain := 2.5 }
  let a1 : AmpIn ℝ := { user := newEdfa, sel := { pMax := 23, gainFlatmax := 26, outVoaAuto := false },
                        nodeLoss := 0, nextIsRoadm := true, nextLoss := 16 }
  refine ⟨c, [a1, a1], rfl, ?_⟩
  have hdec : ("" == "") = true := by decide
  simp only [FitsAll, ampStep, computeTargets, powerReduction, targetPower, truthy_eq, pmin_eq, pmax_eq, c, a1,
    newEdfa, newAmp, hdec, if_true, Bool.false_eq_true, if_false, and_false, Option.isNone_none, Bool.and_false,
    Option.getD_none, Option.getD_some, true_implies, Bool.true_eq_false, false_implies, and_true]
  norm_num

/-- the hypotheses of the SimParams theorems are satisfiable (an idempotent lower-casing that fixes the default method
name) and the restored state is a non-default one -/
example : ∃ (lower : String → String) (dflt : SimState) (n : NLIParams) (r : RamanParams),
    (∀ m, lower (lower m) = lower m) ∧ lower dflt.nli.method = dflt.nli.method ∧
    setParams lower dflt (some n) (some r) ≠ dflt := by
  refine ⟨id, ⟨⟨"gn_model_analytic", 4, 1, none, none⟩, ⟨false, "perturbative", 2, 10000, 10000⟩⟩,
          ⟨"ggn_spectrally_separated", 4, 1, some [1, 5], none⟩, ⟨true, "perturbative", 1, 10000, 100⟩,
          fun _ => rfl, rfl, by decide⟩

end Gnpy.Chain
