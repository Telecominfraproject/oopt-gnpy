import GnpyModel
import GnpyProofs.Lemmas.SlotsMap
import GnpyProofs.Lemmas.OmsWalk
/- Property theorems for C15 — every designed network yields a consistent OMS partition and spectrum map.
   Model: GnpyModel/Slots.lean (second half). -/
namespace Gnpy.Slots
open Gnpy.Py

/-! ### OMS construction and the spectrum map of an OMS -/

/-- `slots_to_m(mvalue_to_slots(n, m)) = (n, m)` and the slot is `2·m` indices wide. -/
theorem slots_roundtrip (n m : Int) :
    slotsToM (mToSlots n m).1 (mToSlots n m).2 = (n, m) ∧ (mToSlots n m).2 - (mToSlots n m).1 + 1 = 2 * m := by
  unfold slotsToM mToSlots truncDiv
  refine ⟨?_, by omega⟩
  rw [show n - m + (n + m - 1) + 1 = 2 * n by omega, show n + m - 1 - (n - m) + 1 = 2 * m by omega,
    Int.mul_tdiv_cancel_left n (by decide), Int.mul_tdiv_cancel_left m (by decide)]

/-- For every band layout inside the network range (bands ascending, disjoint in slot index) **the map built by
    `create_oms_bitmap` has exactly one cell per index of `[n(f_min), n(f_max)]`**, so `Bitmap.__init__` accepts it (this
    failed for the code before ec64bb7b: `bitmap_length_fails_old`). -/
theorem bitmap_length (bands : List Band) (fMin fMax grid gb : Int) (cells : List Cell)
    (hl : LayoutOK grid (frequencyToN fMin grid - 1) bands (frequencyToN fMax grid))
    (h : createOmsBitmap bands fMin fMax grid = .ok cells) :
    cells.length = (frequencyToN fMax grid - frequencyToN fMin grid + 1).toNat ∧
    ∃ b, Bitmap.create fMin fMax grid gb (some cells) = .ok b ∧ b.WF1 ∧ b.cells = cells ∧
      b.nMin = frequencyToN fMin grid ∧ b.nMax = frequencyToN fMax grid := by
  obtain ⟨h1, _⟩ := createOmsBitmap_spec bands fMin fMax grid cells hl h
  have hg : grid ≠ 0 := fun hg => by simp [createOmsBitmap, hg] at h
  have hle := layout_le hl
  obtain ⟨b, hb⟩ := Bitmap.create_some (fMin := fMin) (fMax := fMax) (gb := gb) hg (h1.trans (by congr 1; omega))
  have C := Bitmap.create_ok hb
  have hne : b.nMin ≤ b.nMax + 1 := by
    rw [C.nMin, C.nMax]
    omega
  exact ⟨h1, b, hb, ⟨C.wf, hne⟩, C.cells _ rfl, C.nMin, C.nMax⟩

/-- In that map **a slot is usable (free) exactly when its index lies in one of the common bands**, and every other slot
    is unusable – none is occupied. -/
theorem usable_iff_in_common_band (bands : List Band) (fMin fMax grid : Int) (cells : List Cell)
    (hl : LayoutOK grid (frequencyToN fMin grid - 1) bands (frequencyToN fMax grid))
    (h : createOmsBitmap bands fMin fMax grid = .ok cells) (k : Nat) (hk : k < cells.length) :
    (cells[k]? = some Cell.free ↔ InBands grid bands (frequencyToN fMin grid + k)) ∧
    (cells[k]? = some Cell.free ∨ cells[k]? = some Cell.unusable) := by
  obtain ⟨_, h2⟩ := createOmsBitmap_spec bands fMin fMax grid cells hl h
  rcases h2 k hk with ⟨a, b⟩ | ⟨a, b⟩
  · exact ⟨⟨fun _ => b, fun _ => a⟩, Or.inl a⟩
  · refine ⟨⟨fun hh => ?_, fun hh => absurd hh b⟩, Or.inr a⟩
    rw [a] at hh
    cases hh

/-- "index inside a band" is "centre frequency of the slot inside the band", for every band edge, on or off the grid
    (this is what the inward rounding of d0f17fb2 achieves; with truncation toward zero it failed for off-grid edges) -/
theorem inBands_iff_frequency (bands : List Band) (x : Int) :
    InBands defaultGrid bands x ↔ ∃ b ∈ bands, b.1 ≤ nToFrequency x ∧ nToFrequency x ≤ b.2 := by
  have lo : ∀ f : Int, bandLo f defaultGrid ≤ x ↔ f ≤ nToFrequency x := fun f => by
    rw [bandLo, ceilDiv_le_iff (by decide)]
    exact ⟨Int.le_add_of_sub_left_le, Int.sub_left_le_of_le_add⟩
  have hi : ∀ f : Int, x ≤ bandHi f defaultGrid ↔ nToFrequency x ≤ f := fun f => by
    rw [bandHi, le_floorDiv_iff (by decide)]
    exact ⟨Int.add_le_of_le_sub_left, Int.le_sub_left_of_add_le⟩
  simp only [InBands, lo, hi]

/-- **common band = intersection.** The band list from which the map of an OMS is drawn (`find_common_range` of its
    amplifiers) contains a frequency exactly when every amplifier of the OMS has a band containing it. -/
theorem common_band_is_intersection (amps : List (List Band)) (dflt : Option Band) (f : Int) (hne : amps ≠ []) :
    Inside (commonRange amps dflt) f ↔ ∀ a ∈ amps, Inside a f := by
  have hmem : ∀ x, x ∈ removeDuplicates [] (amps.map sortBands) ↔ ∃ a ∈ amps, sortBands a = x := by
    simp [mem_removeDuplicates]
  unfold commonRange
  cases hu : removeDuplicates [] (amps.map sortBands) with
  | nil =>
    obtain ⟨a, ha⟩ := List.exists_mem_of_ne_nil _ hne
    cases hu ▸ (hmem _).2 ⟨a, ha, rfl⟩
  | cons c0 rest =>
    have key : (∀ x ∈ c0 :: rest, Inside x f) ↔ ∀ a ∈ amps, Inside a f := by
      simp only [← hu, hmem, forall_exists_index, and_imp, forall_apply_eq_imp_iff₂, inside_sortBands]
    rw [inside_sortBands, inside_foldl_intersectBands, ← key]
    exact and_iff_right_of_imp fun h => h c0 List.mem_cons_self

/-- After `align_grids` **every map carries the contiguous index list of the common range** `[lo, hi]` = [lowest n_min,
    highest n_max]: each slot index exactly once, one cell per index (false for the `insert_right` before 5edacf9c:
    `insert_right_dup_old`). -/
theorem align_index_unique (l l' : List Bitmap) (hwf : ∀ b ∈ l, b.WF1) (h : alignGrids l = .ok l') :
    ∃ lo hi, (∀ b ∈ l, lo ≤ b.nMin ∧ b.nMax ≤ hi) ∧ (∃ b ∈ l, b.nMin = lo) ∧ (∃ b ∈ l, b.nMax = hi) ∧
      l'.length = l.length ∧
      ∀ b' ∈ l', b'.nMin = lo ∧ b'.nMax = hi ∧ b'.freqIndex = intRange lo (hi + 1) ∧ b'.freqIndex.Nodup ∧
        b'.cells.length = b'.freqIndex.length := by
  obtain ⟨lo, hi, a1, a2, a3, F⟩ := alignGrids_ok hwf h
  refine ⟨lo, hi, a1, a2, a3, F.length_eq.symm, fun b' hb' => ?_⟩
  obtain ⟨b, -, ⟨⟨w1, w2⟩, -⟩, g3, g4, -⟩ := F.exists_left hb'
  exact ⟨g3, g4, by rw [w1, g3, g4], w1 ▸ nodup_intRange _ _, w2⟩

/-- **Alignment keeps every existing cell at its slot index** (hence at its frequency) and fills the added indices with
    `occupied`. -/
theorem align_preserves_occupancy (l l' : List Bitmap) (hwf : ∀ b ∈ l, b.WF1) (h : alignGrids l = .ok l')
    (i : Nat) (b b' : Bitmap) (hb : l[i]? = some b) (hb' : l'[i]? = some b') (x : Int) :
    (b.nMin ≤ x → x ≤ b.nMax → b'.cellAt x = b.cellAt x) ∧
    (b'.nMin ≤ x → x ≤ b'.nMax → ¬ (b.nMin ≤ x ∧ x ≤ b.nMax) → b'.cellAt x = some Cell.occupied) := by
  obtain ⟨lo, hi, -, -, -, F⟩ := alignGrids_ok hwf h
  obtain ⟨b'', g1, -, g3, g4, g5⟩ := F.getElem?_left hb
  cases hb'.symm.trans g1
  refine ⟨fun h1 h2 => ?_, fun h1 h2 h3 => ?_⟩
  · rw [g5 x, if_pos ⟨h1, h2⟩]
  · rw [g5 x, if_neg h3, if_pos ⟨by omega, by omega⟩]

/-- **`build_oms_list` turns every line system (ROADM · line elements · ROADM) into exactly one OMS**, ids in construction
    order, elements unchanged and in order – so each line element is in exactly one OMS when it is in exactly one line
    system – and **all spectrum maps are well formed over the same contiguous slot range** `[n(f_min), n(f_max)]` of the
    network-wide amplifier range (`same_index_range` of DESIGN.md section 5). -/
theorem oms_partition (chains : List Chain) (netBands : List Band) (si : Option Band) (l : List OmsRec)
    (hne : ∀ b ∈ netBands, b.1 ≤ b.2) (h : buildOmsList chains netBands si = .ok l) :
    ∃ fMin fMax, networkRange netBands = .ok (fMin, fMax) ∧ l.length = chains.length ∧
      (∀ (i : Nat) (c : Chain), chains[i]? = some c → ∃ o, l[i]? = some o ∧ o.id = i ∧ o.els = c.els ∧
        o.reversed = reversedOms (chains.map (·.els)) i) ∧
      ∀ o ∈ l, o.bm.WF1 ∧ o.bm.nMin = frequencyToN fMin ∧ o.bm.nMax = frequencyToN fMax ∧
        o.bm.freqIndex = intRange (frequencyToN fMin) (frequencyToN fMax + 1) := by
  simp only [buildOmsList, Except.bind_eq_ok, Except.pure_eq_ok_iff] at h
  obtain ⟨⟨fMin, fMax⟩, hr, bms, hm, aligned, ha, h⟩ := h
  have hrange : frequencyToN fMin ≤ frequencyToN fMax := frequencyToN_mono (networkRange_le hr hne)
  have hm := mapE_eq_ok.1 hm
  have created : ∀ b ∈ bms, b.WF1 ∧ b.nMin = frequencyToN fMin ∧ b.nMax = frequencyToN fMax := by
    intro b hb
    obtain ⟨c, -, g2⟩ := hm.exists_left hb
    simp only [omsBitmap, Except.bind_eq_ok] at g2
    obtain ⟨cells, -, g2⟩ := g2
    have C := Bitmap.create_ok g2
    exact ⟨⟨C.wf, C.nMin ▸ C.nMax ▸ Int.le_add_one hrange⟩, C.nMin, C.nMax⟩
  obtain ⟨lo, hi, -, ⟨bl, hbl, a2⟩, ⟨bh, hbh, a3⟩, F⟩ := alignGrids_ok (fun b hb => (created b hb).1) ha
  have hlo : lo = frequencyToN fMin := a2 ▸ (created bl hbl).2.1
  have hhi : hi = frequencyToN fMax := a3 ▸ (created bh hbh).2.2
  subst h hlo hhi
  refine ⟨fMin, fMax, hr, by simp [← F.length_eq, ← hm.length_eq], fun i c hc => ?_, fun o ho => ?_⟩
  · obtain ⟨b, hb, -⟩ := hm.getElem?_left hc
    obtain ⟨b', hb', -⟩ := F.getElem?_left hb
    refine ⟨{ id := i, els := c.els, bm := b', reversed := reversedOms (chains.map (·.els)) i }, ?_, rfl, rfl, rfl⟩
    rw [List.getElem?_map, List.getElem?_zipIdx, (List.getElem?_zip_eq_some (z := (c, b'))).2 ⟨hc, hb'⟩]
    simp
  · obtain ⟨p, hp, rfl⟩ := List.mem_map.1 ho
    obtain ⟨b, -, w, g3, g4, -⟩ := F.exists_left (List.of_mem_zip (List.fst_mem_of_mem_zipIdx hp)).2
    exact ⟨w, g3, g4, by rw [w.1.1, g3, g4]⟩

/-- the OMS found by `reversed_oms` runs between the same two ROADMs the other way -/
theorem reversed_endpoints {α : Type} [DecidableEq α] (l : List (List α)) (i j : Nat) (h : reversedOms l i = some j) :
    ∃ e o, l[i]? = some e ∧ l[j]? = some o ∧ e.head? = o.getLast? ∧ e.getLast? = o.head? := by
  unfold reversedOms at h
  split at h
  · cases h
  · next e he =>
    obtain ⟨hj, hp, _⟩ := List.findIdx?_eq_some_iff_getElem.1 h
    refine ⟨e, l[j], he, List.getElem?_eq_getElem hj, ?_⟩
    simpa using hp

/-- **opposite directions are paired.** When no two OMS run between the same ordered pair of ROADMs (no parallel
    links), `reversed_oms` is an involution: the reverse of the reverse of an OMS is the OMS itself. -/
theorem reversed_involution {α : Type} [DecidableEq α] (l : List (List α))
    (huniq : ∀ (a b : Nat) (x y : List α), l[a]? = some x → l[b]? = some y → x.head? = y.head? →
      x.getLast? = y.getLast? → a = b)
    (i j : Nat) (h : reversedOms l i = some j) : reversedOms l j = some i := by
  obtain ⟨e, o, he, ho, h1, h2⟩ := reversed_endpoints l i j h
  unfold reversedOms
  rw [ho]
  obtain ⟨hil, hei⟩ := List.getElem?_eq_some_iff.1 he
  rw [List.findIdx?_eq_some_iff_getElem]
  refine ⟨hil, ?_, ?_⟩
  · rw [hei]
    simp [h1, h2]
  · -- an earlier OMS `k` that is also a reverse of `o` runs between the same ROADMs as `e`, so `k = i`
    intro k hk hpk
    have hkl : k < l.length := by omega
    have hpk' : o.head? = l[k].getLast? ∧ o.getLast? = l[k].head? := by simpa using hpk
    have := huniq k i l[k] e (List.getElem?_eq_getElem hkl) he (hpk'.2.symm.trans h1.symm) (hpk'.1.symm.trans h2.symm)
    omega

/-! ### the graph walk of `build_oms_list` (model `buildWalks` on the exported DiGraph) -/

/-- **oms_partition on the graph.** On every well-formed network (each line element has exactly one successor and one
    predecessor, no ring of line elements, transceivers have a successor) `build_oms_list`'s walk
    * succeeds (no exception, no exhaustion of the fuel),
    * gives OMS `i` = ingress node (ROADM, or transceiver feeding a line) · line elements · egress ROADM, consecutive
      elements joined by edges of the network, ids `0 … n−1` being the positions in construction order,
    * puts every line element into exactly one OMS, and the `oms_id` back reference of the element is that OMS. -/
theorem oms_partition_graph (g : Net) (pos : Nat → Nat) (hwf : g.WF pos) :
    ∃ vs L, omsVertices g = .ok vs ∧ buildWalks g = .ok L ∧ L.length = (omsStarts g vs).length ∧
      (∀ (i : Nat) (st : Nat × Nat), (omsStarts g vs)[i]? = some st → ∃ ls r, L[i]? = some (st.1 :: (ls ++ [r])) ∧
        g.kindOf st.1 ≠ NodeKind.line ∧ (∀ y ∈ ls, g.kindOf y = NodeKind.line) ∧ g.kindOf r = NodeKind.roadm ∧
        Linked g (st.1 :: (ls ++ [r]))) ∧
      (∀ l, g.kindOf l = NodeKind.line → ∃ i els, L[i]? = some els ∧ l ∈ els ∧
        (∀ (j : Nat) (els' : List Nat), L[j]? = some els' → l ∈ els' → j = i) ∧ omsIdOf L l = some i) := by
  -- as in `buildWalks_ok`, but keeping the relation `F` between the starts and the walks, which is read in both directions
  obtain ⟨vs, hv, hnd, hk, hr, ht⟩ := omsVertices_ok g pos hwf
  obtain ⟨L, hL, F⟩ := omsEls_ok hwf hk
  have hvk : ∀ st ∈ omsStarts g vs, g.kindOf st.1 ≠ NodeKind.line := fun st hst =>
    (hk _ (mem_omsStarts.1 hst).1).2
  refine ⟨vs, L, hv, by rw [buildWalks, hv]; exact hL, F.length_eq.symm, fun i st hi => ?_, fun l hl => ?_⟩
  · obtain ⟨_, h1, w, rfl, hp⟩ := F.getElem?_left hi
    obtain ⟨ls, r, rfl, h2, h3⟩ := hp.shape
    exact ⟨ls, r, h1, hvk st (List.mem_of_getElem? hi), h2, h3, hp.linked⟩
  · obtain ⟨st, hst, w, hw, hlw⟩ := line_on_some_route g pos hwf vs hr ht
      (fun st hst => (F.exists_right hst).elim fun _ h => h.2.imp fun w h => h.2) (pos l) l rfl hl
    obtain ⟨i, hi⟩ := List.mem_iff_getElem?.1 hst
    obtain ⟨_, hi', w', rfl, hp'⟩ := F.getElem?_left hi
    cases hw.functional hp'
    have huniq : ∀ (j : Nat) (els' : List Nat), L[j]? = some els' → l ∈ els' → j = i := by
      intro j els' hj hlj
      obtain ⟨st', hj', w2, rfl, hp2⟩ := F.getElem?_right hj
      have hst' := List.mem_of_getElem? hj'
      -- `l` is a line element, so it lies on the walk part, and two walks through `l` start with the same edge
      have hl2 : l ∈ w2 := (List.mem_cons.1 hlj).resolve_left fun e => hvk st' hst' (e ▸ hl)
      obtain ⟨e1, e2⟩ := OmsPath.same_start g pos hwf (pos l) l rfl hl st'.1 st'.2 st.1 st.2 w2 w (hvk _ hst')
        (hvk _ hst) hp2 hw hl2 hlw
      exact (List.getElem?_inj (List.getElem?_eq_some_iff.1 hj').1 (nodup_omsStarts g pos hwf vs hnd)).1
        (by rw [hj', hi, Prod.ext e1 e2])
    refine ⟨i, st.1 :: w, hi', List.mem_cons_of_mem _ hlw, huniq, ?_⟩
    -- the back reference: the only OMS whose interior contains l is OMS i
    obtain ⟨ls, r, rfl, -, h2⟩ := hw.shape
    refine omsIdOf_eq_some hi' ?_ fun j els' hj h =>
      huniq j els' hj (List.mem_of_mem_tail ((List.dropLast_sublist _).subset h))
    rw [interior, List.tail_cons, List.dropLast_concat]
    exact (List.mem_append.1 hlw).resolve_right fun h => by
      rw [List.mem_singleton.1 h, h2] at hl; cases hl

/-- opposite directions are paired on the graph as well: the OMS found by `reversed_oms` runs between the same two nodes
    the other way, and without parallel OMS the pairing is an involution (`reversed_endpoints`, `reversed_involution`
    hold for the element lists produced by the walk, whatever they are) -/
theorem reversed_pairs_walk (L : List (List Nat)) (i j : Nat) (h : reversedOms L i = some j) :
    (∃ e o, L[i]? = some e ∧ L[j]? = some o ∧ e.head? = o.getLast? ∧ e.getLast? = o.head?) ∧
    ((∀ (a b : Nat) (x y : List Nat), L[a]? = some x → L[b]? = some y → x.head? = y.head? → x.getLast? = y.getLast? → a = b) →
      reversedOms L j = some i) :=
  ⟨reversed_endpoints L i j h, fun hu => reversed_involution L hu i j h⟩

/-! ### the two defects of the code before the repairs, decided on faithful models of the old code -/

/-- F2: with the old `n_max = frequency_to_n(f_max) − 1` an OMS whose band ends below the network maximum gets a map
    that is one cell short, which `Bitmap.__init__` rejects (band 193.1–193.15 THz inside a network range
    193.1–193.2 THz) -/
theorem bitmap_length_fails_old :
    (createOmsBitmapOld [(anchorHz, anchorHz + 8 * defaultGrid)] anchorHz (anchorHz + 16 * defaultGrid) defaultGrid).toOption.map
      List.length = some 16 ∧
    (createOmsBitmap [(anchorHz, anchorHz + 8 * defaultGrid)] anchorHz (anchorHz + 16 * defaultGrid) defaultGrid).toOption.map
      List.length = some 17 ∧
    frequencyToN (anchorHz + 16 * defaultGrid) - frequencyToN anchorHz + 1 = 17 ∧
    ((createOmsBitmapOld [(anchorHz, anchorHz + 8 * defaultGrid)] anchorHz (anchorHz + 16 * defaultGrid) defaultGrid).toOption.bind
      (fun c => (Bitmap.create anchorHz (anchorHz + 16 * defaultGrid) defaultGrid defaultGuardband (some c)).toOption)) = none := by
  decide +kernel

/-- F3: the old `insert_right` started the new indices at `n_max`: the index list is no longer duplicate free -/
theorem insert_right_dup_old :
    ((Bitmap.create (anchorHz - 4 * defaultGrid) (anchorHz + 4 * defaultGrid) defaultGrid 0 none).toOption.bind
      (fun b => (b.insertRightOld (rep 2 Cell.occupied)).toOption)).map (·.freqIndex) =
      some [-4, -3, -2, -1, 0, 1, 2, 3, 4, 4, 5] ∧
    ((Bitmap.create (anchorHz - 4 * defaultGrid) (anchorHz + 4 * defaultGrid) defaultGrid 0 none).toOption.bind
      (fun b => (b.insertRight (rep 2 Cell.occupied)).toOption)).map (·.freqIndex) =
      some [-4, -3, -2, -1, 0, 1, 2, 3, 4, 5, 6] := by decide +kernel

/-! ### non-vacuity -/

/-- a C+L layout inside a wider network range satisfies `LayoutOK` -/
example : LayoutOK defaultGrid (frequencyToN 186000000000000 - 1)
    [(186500000000000, 190100000000000), (191300000000000, 195100000000000)] (frequencyToN 196100000000000) := by
  simp only [LayoutOK]
  decide

example : (createOmsBitmap [(anchorHz - 40 * defaultGrid, anchorHz - 20 * defaultGrid), (anchorHz - 8 * defaultGrid, anchorHz + 12 * defaultGrid)]
    (anchorHz - 44 * defaultGrid) (anchorHz + 16 * defaultGrid) defaultGrid).toOption.map List.length = some 61 := by decide +kernel

/-- two maps of different extent are aligned on the union range -/
example : ((Bitmap.create (anchorHz - 4 * defaultGrid) (anchorHz + 2 * defaultGrid) defaultGrid 0 none).toOption.bind
    (fun a => (Bitmap.create (anchorHz - 1 * defaultGrid) (anchorHz + 5 * defaultGrid) defaultGrid 0 none).toOption.bind
      (fun b => (alignGrids [a, b]).toOption))).map (fun l => l.map (fun b => (b.nMin, b.nMax, b.cells.length))) =
    some [(-4, 5, 10), (-4, 5, 10)] := by decide +kernel

/-- reverse pairing on a three-ROADM line: 0 ↔ 1 and 2 ↔ 3 -/
example : (List.range 4).map (reversedOms [["A", "f1", "B"], ["B", "f2", "A"], ["B", "f3", "C"], ["C", "f4", "B"]]) =
    [some 1, some 0, some 3, some 2] := by decide +kernel

/-- a small well-formed network: ROADM 0 with transceiver 1, line 0 → 2 → 3 → ROADM 4, back 4 → 5 → 0 -/
def exNet : Net :=
  { kind := [.roadm, .trx, .line, .line, .roadm, .line],
    succ := [[1, 2], [0], [3], [4], [5], [0]] }
def exPos (l : Nat) : Nat := if l = 3 then 1 else 0

theorem exNet_succ_lt (a l : Nat) (h : l ∈ exNet.succOf a) : a < 6 :=
  exNet.lt_of_mem_succOf h

theorem exNet_line (l : Nat) (h : exNet.kindOf l = NodeKind.line) : l = 2 ∨ l = 3 ∨ l = 5 :=
  (by decide : ∀ l < 6, exNet.kindOf l = .line → l = 2 ∨ l = 3 ∨ l = 5) l (exNet.kindOf_lt (by rw [h]; decide)) h

/-- the hypothesis `Net.WF` of the walk theorems is satisfiable -/
example : exNet.WF exPos := by
  -- every field is a finite check once the nodes are bounded: an edge `a → l` has `a < 6`, a line element is 2, 3 or 5
  refine ⟨rfl, fun a l ha => ?_, fun a => ?_, fun l h => ?_, fun a b l h ha hb => ?_, fun l h => ?_, fun a l h ha => ?_,
    fun a l h ha => ?_, fun a l h ha => ?_, fun t ht => ?_, fun t l hk hl => ?_⟩
  · exact (by decide : ∀ a < 6, ∀ l ∈ exNet.succOf a, l < exNet.size) a (exNet_succ_lt a l ha) l ha
  · rcases Nat.lt_or_ge a 6 with hh | hh
    · exact (by decide : ∀ a < 6, (exNet.succOf a).Nodup) a hh
    · rw [Net.succOf, List.getElem?_eq_none hh]
      exact List.nodup_nil
  · rcases exNet_line l h with rfl | rfl | rfl
    exacts [⟨3, rfl, by decide⟩, ⟨4, rfl, by decide⟩, ⟨0, rfl, by decide⟩]
  · exact (by decide : ∀ a < 6, ∀ b < 6, ∀ l ∈ exNet.succOf a, l ∈ exNet.succOf b → exNet.kindOf l = .line → a = b)
      a (exNet_succ_lt a l ha) b (exNet_succ_lt b l hb) l ha hb h
  · rcases exNet_line l h with rfl | rfl | rfl
    exacts [⟨0, by decide⟩, ⟨2, by decide⟩, ⟨4, by decide⟩]
  · exact (by decide : ∀ a < 6, ∀ l ∈ exNet.succOf a, exNet.kindOf l = .line → exNet.succOf l ≠ [a])
      a (exNet_succ_lt a l ha) l ha h
  · exact (by decide : ∀ a < 6, ∀ l ∈ exNet.succOf a, exNet.kindOf l = .line → exNet.kindOf a ≠ .line → exPos l = 0)
      a (exNet_succ_lt a l ha) l ha h
  · exact (by decide : ∀ a < 6, ∀ l ∈ exNet.succOf a, exNet.kindOf l = .line → exNet.kindOf a = .line →
      exPos l = exPos a + 1) a (exNet_succ_lt a l ha) l ha h
  · exact (by decide : ∀ t < 6, exNet.kindOf t = .trx → exNet.succOf t ≠ []) t ht
  · exact (by decide : ∀ t < 6, ∀ l ∈ exNet.succOf t, exNet.kindOf t = .trx → exNet.kindOf l = .line →
      ∃ h, (exNet.succOf t).head? = some h ∧ exNet.kindOf h ≠ .roadm) t (exNet_succ_lt t l hl) l hl hk

example : (buildWalks exNet).toOption = some [[0, 2, 3, 4], [4, 5, 0]] := by decide +kernel

example : ((buildWalks exNet).toOption.map (fun l => (List.range 6).map (omsIdOf l))) =
    some [none, none, some 0, some 0, none, some 1] := by decide +kernel

end Gnpy.Slots
