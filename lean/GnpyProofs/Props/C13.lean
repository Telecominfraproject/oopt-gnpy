import GnpyModel
import GnpyProofs.Lemmas.Db
import GnpyProofs.Lemmas.RoundHE
import GnpyProofs.Lemmas.Verdict
import GnpyProofs.Lemmas.VerdictDiscrete
import GnpyProofs.Lemmas.MapM
/- Property theorems for C13 — a service is accepted exactly when its worst channel clears the mode's threshold.
   Model: GnpyModel/Verdict.lean (+ RoundHE.lean; Roadm.lean for the impairment profiles of a crossing).  Numeric
   statements over ℝ, the mode loop over Int/List. -/
namespace Gnpy.Verdict
open Gnpy.HE

/-! ### receiver figures: transmitter and add/drop noise counted exactly once, from the raw values -/

/-- **update_snr formula.** With at least one contribution present, each receiver figure is, in the linear domain,
the line-only (raw) figure plus the sum of the listed contributions — every one exactly once — scaled to the
figure's bandwidth (`baud/12.5 GHz` for the in-band figures, 1 for the 0.1 nm figures). -/
theorem updateSnr_formula (r : Rx ℝ) (args : List (Option ℝ)) (hb : 0 < r.baud) (hS : 0 < linSum args) :
    db2lin (-(updateSnr r args).snr01) = db2lin (-r.rawSnr01) + linSum args ∧
    db2lin (-(updateSnr r args).osnrAse01) = db2lin (-r.rawOsnrAse01) + linSum args ∧
    db2lin (-(updateSnr r args).snr) = db2lin (-r.rawSnr) + r.baud / bwRef * linSum args ∧
    db2lin (-(updateSnr r args).osnrAse) = db2lin (-r.rawOsnrAse) + r.baud / bwRef * linSum args := by
  simp only [updateSnr, snrSum_lin _ _ _ bwRef_pos, snrSum_lin _ _ _ hb, snrAdded_lin _ hS, div_self bwRef_pos.ne', one_mul,
    and_self]

/-- `None` arguments are ignored; the present ones add up, each once, in any position -/
theorem linSum_spec (a b : List (Option ℝ)) (v : ℝ) :
    linSum (a ++ none :: b) = linSum (a ++ b) ∧ linSum (a ++ some v :: b) = linSum (a ++ b) + db2lin (-v) := by
  refine ⟨by simp [linSum_append, linSum], ?_⟩
  simp only [linSum_append, linSum]; ring

theorem updateSnr_raw (r : Rx ℝ) (args : List (Option ℝ)) :
    (updateSnr r args).rawSnr01 = r.rawSnr01 ∧ (updateSnr r args).rawSnr = r.rawSnr ∧
    (updateSnr r args).rawOsnrAse01 = r.rawOsnrAse01 ∧ (updateSnr r args).rawOsnrAse = r.rawOsnrAse ∧
    (updateSnr r args).baud = r.baud := by
  simp [updateSnr]

theorem updateSnr_twice (r : Rx ℝ) (a b : List (Option ℝ)) : updateSnr (updateSnr r a) b = updateSnr r b := by
  simp [updateSnr]

/-- **history-free.** However many times the receiver figures were recomputed before (successive modes), the state
after the last `update_snr` is the state that call alone produces from the propagated receiver. -/
theorem updateSnr_history_free (r : Rx ℝ) (calls : List (List (Option ℝ))) (last : List (Option ℝ)) :
    updateSnrSeq r (calls ++ [last]) = updateSnr r last := by
  rw [updateSnrSeq, List.foldl_append, List.foldl_cons, List.foldl_nil]
  induction calls generalizing r with
  | nil => rfl
  | cons c cs ih => rw [List.foldl_cons, ih, updateSnr_twice]

/-! ### the list of contributions: transmitter once, every ROADM crossing once -/

theorem roadmOsnr_length (path : List (PathEl ℝ)) :
    (roadmOsnr path).length = (path.filter (fun e => match e with | .roadm _ => true | .other => false)).length := by
  induction path with
  | nil => rfl
  | cons e rest ih => cases e <;> simp [roadmOsnr, ih]

/-- **tx and add/drop once (fixed mode).** `propagate` hands the receiver one entry per ROADM crossing, in path
order, followed by exactly one transmitter entry; in the linear sum the transmitter term appears once. -/
theorem tx_and_adddrop_once (path : List (PathEl ℝ)) (tx : ℝ) :
    propagateArgs path tx = roadmOsnr path ++ [some tx] ∧
    (propagateArgs path tx).length = (roadmOsnr path).length + 1 ∧
    linSum (propagateArgs path tx) = linSum (roadmOsnr path) + db2lin (-tx) := by
  refine ⟨rfl, by simp [propagateArgs], ?_⟩
  simp [propagateArgs, linSum_append, linSum]

/-- **tx once per iteration of the mode loop**, for any number of iterations: iteration `k` hands the receiver the
ROADM entries and the transmitter OSNR of mode `k` only — the append/delete pair leaves the list as it was. -/
theorem loopArgs_spec (st : List (Option ℝ)) (txs : List ℝ) :
    loopArgs st txs = txs.map (fun tx => st ++ [some tx]) := by
  induction txs generalizing st with
  | nil => rfl
  | cons tx rest ih =>
    simp only [loopArgs, loopStep, List.map_cons, List.dropLast_concat]
    rw [ih]

/-! ### which roadm-osnr each crossing contributes (profiles of GnpyModel/Roadm.lean) -/

section crossings
open Gnpy.Roadm (PType Profile selectProfile lookupBands firstOfType)

/-- linear noise contribution of one crossing for the carrier at `f` (0 when it contributes nothing) -/
noncomputable def crossingLin (c : Crossing ℝ) (f : ℝ) : ℝ :=
  match crossingOsnr c f with
  | .ok (some v) => db2lin (-v)
  | _ => 0

theorem crossingsOsnr_spec (cs : List (Crossing ℝ)) (f : ℝ) (l : List (Option ℝ)) (h : crossingsOsnr cs f = .ok l) :
    l.length = cs.length ∧ linSum l = (cs.map (fun c => crossingLin c f)).sum := by
  replace h := Except.mapM_eq_ok.1 h
  induction h with
  | nil => simp [linSum]
  | @cons c o cs l ho _ ih =>
    refine ⟨by simp [ih.1], ?_⟩
    cases o <;> simp [linSum, ih.2, crossingLin, ho]

/-- **add/drop OSNR once per crossing.** For every carrier the receiver's `update_snr` is handed exactly one entry per
ROADM crossing of the path, in path order, followed by the transmitter OSNR; the linear noise added to the line GSNR
is the sum over the crossings of each crossing's own contribution — counted once — plus the transmitter's. -/
theorem adddrop_osnr_once_per_crossing (cs : List (Crossing ℝ)) (f tx : ℝ) (args : List (Option ℝ))
    (h : receiverArgs cs f tx = .ok args) :
    args.length = cs.length + 1 ∧
    linSum args = (cs.map (fun c => crossingLin c f)).sum + db2lin (-tx) := by
  unfold receiverArgs at h
  split at h
  · cases h
  · next l hl =>
    obtain rfl := Except.ok.inj h
    obtain ⟨i1, i2⟩ := crossingsOsnr_spec cs f l hl
    refine ⟨by simp [i1], ?_⟩
    rw [linSum_append, i2]
    simp [linSum]

/-- the concrete values: without a library profile and without a user entry an add or drop crossing contributes
`add_drop_osnr + 10·log10(2)`, i.e. HALF of the node's combined add/drop noise `1/add_drop_osnr` (so add and drop of one
node type together count `add_drop_osnr` once), and an express crossing contributes nothing -/
theorem crossing_default_values (ad f : ℝ) :
    crossingLin { profiles := [], user := none, ptype := PType.add, addDropOsnr := ad } f = db2lin (-ad) / 2 ∧
    crossingLin { profiles := [], user := none, ptype := PType.drop, addDropOsnr := ad } f = db2lin (-ad) / 2 ∧
    crossingLin { profiles := [], user := none, ptype := PType.express, addDropOsnr := ad } f = 0 := by
  -- the form in which `simp` leaves the add/drop default `add_drop_osnr + lin2db 2`
  have h : db2lin (-lin2db (2:ℝ) + -ad) = db2lin (-ad) / 2 := by
    rw [db2lin_add, db2lin_neg_lin2db two_pos, inv_mul_eq_div]
  refine ⟨?_, ?_, ?_⟩ <;> simp [crossingLin, crossingOsnr, selectProfile, firstOfType, h]

/-- with a selected profile (the user's `per_degree_impairments` entry, else the first library profile of the path
type) the contribution is that profile's `roadm-osnr` of the first frequency range containing the carrier; a profile
without the key (express profiles) contributes nothing -/
theorem crossing_profile_value (c : Crossing ℝ) (p : Profile ℝ) (f : ℝ)
    (hsel : selectProfile c.profiles c.user c.ptype = .ok (some p)) :
    crossingOsnr c f = .ok (lookupBands p.bands f) ∧
    (lookupBands p.bands f = none → crossingLin c f = 0) ∧
    (∀ v, lookupBands p.bands f = some v → crossingLin c f = db2lin (-v)) := by
  have h1 : crossingOsnr c f = .ok (lookupBands p.bands f) := by simp [crossingOsnr, hsel]
  refine ⟨h1, ?_, ?_⟩
  · intro hn; simp [crossingLin, h1, hn]
  · intro v hv; simp [crossingLin, h1, hv]

/-- a trx-to-trx route over default ROADMs of one type: add + express… + drop + tx = `1/add_drop_osnr + 1/tx_osnr` -/
theorem adddrop_route_default (ad f tx : ℝ) (k : Nat) (args : List (Option ℝ))
    (h : receiverArgs
      ({ profiles := [], user := none, ptype := PType.add, addDropOsnr := ad } ::
        (List.replicate k { profiles := [], user := none, ptype := PType.express, addDropOsnr := ad } ++
          [{ profiles := [], user := none, ptype := PType.drop, addDropOsnr := ad }])) f tx = .ok args) :
    linSum args = db2lin (-ad) + db2lin (-tx) := by
  rw [(adddrop_osnr_once_per_crossing _ f tx args h).2]
  obtain ⟨a, d, e⟩ := crossing_default_values ad f
  simp only [List.map_cons, List.map_append, List.map_replicate, List.sum_cons, List.sum_append, List.sum_replicate,
    List.map_nil, List.sum_nil, a, d, e]
  simp

end crossings

/-! ### penalties (`_calc_penalty`, `calc_penalties`) and the worst channel -/

/-- below the first boundary: blocking (infinite) penalty -/
theorem penalty_below_blocks (x a fa : ℝ) (rest : List (ℝ × ℝ)) (h : x < a) :
    interpPenalty x ((a, fa) :: rest) = Pen.inf := by
  simp [interpPenalty, h]

/-- **an impairment outside the mode's penalty table always blocks** (above every boundary) -/
theorem penalty_above_blocks (x : ℝ) (t : List (ℝ × ℝ)) (h : ∀ p ∈ t, p.1 < x) : interpPenalty x t = Pen.inf :=
  (interpPenalty_eq_interpFrom x t fun p hp => (h p (List.mem_of_mem_head? hp)).le).trans (interpFrom_above x t h)

/-- inside the (ascending) table the penalty is finite -/
theorem penalty_inside_finite (x : ℝ) (t : List (ℝ × ℝ)) (hs : t.Pairwise (fun p q => p.1 ≤ q.1))
    (hlo : ∀ p, t.head? = some p → p.1 ≤ x) (hhi : ∃ p ∈ t, x ≤ p.1) : ∃ v, interpPenalty x t = Pen.fin v :=
  interpPenalty_eq_interpFrom x t hlo ▸ interpFrom_inside x t hs hhi

/-- between two consecutive boundaries the penalty is the linear interpolation; on a boundary it is the tabulated
value -/
theorem penalty_segment (x a fa b fb : ℝ) (rest : List (ℝ × ℝ)) (h1 : a ≤ x) (h2 : x < b) :
    interpPenalty x ((a, fa) :: (b, fb) :: rest) =
      if a < x then Pen.fin ((fb - fa) / (b - a) * (x - a) + fa) else Pen.fin fa := by
  simp only [interpPenalty, interpFrom]
  rw [if_neg (not_lt.2 h1), if_pos h2]

theorem totalPenalty_inf (ps : List (Pen ℝ)) (h : Pen.inf ∈ ps) : totalPenalty ps = Pen.inf := by
  match ps with
  | [] => simp at h
  | p :: rest => exact (foldl_add_eq_inf rest p).2 ((List.mem_cons.1 h).imp_left Eq.symm)

/-- the worst channel: `minMetric` returns a member that is ≤ every channel's metric -/
theorem minMetric_spec (ms : List (Option ℝ)) (v : ℝ) (h : minMetric ms = some v) :
    some v ∈ ms ∧ ∀ m ∈ ms, ∃ w, m = some w ∧ v ≤ w := by
  match ms with
  | [] => cases h
  | [m] => obtain rfl : m = some v := h; simp
  | m :: m' :: rest =>
    simp only [minMetric] at h
    split at h
    · next _ a b hb =>
      obtain ⟨hb1, hb2⟩ := minMetric_spec (m' :: rest) b hb
      split_ifs at h with hlt <;> obtain rfl := Option.some.inj h
      · exact ⟨List.mem_cons_of_mem _ hb1, List.forall_mem_cons.2 ⟨⟨a, rfl, hlt.le⟩, hb2⟩⟩
      · exact ⟨List.mem_cons_self, List.forall_mem_cons.2 ⟨⟨_, rfl, le_rfl⟩,
          fun x hx => (hb2 x hx).imp fun w hw => ⟨hw.1, (not_lt.1 hlt).trans hw.2⟩⟩⟩
    · cases h

/-- **outside the table ⇒ blocked**: a channel whose total penalty is infinite makes the request infeasible under
both verdicts, whatever the GSNR and the threshold -/
theorem penalty_outside_blocks (snrs : List ℝ) (pens : List (Pen ℝ)) (osnr margin : ℝ)
    (hlen : snrs.length = pens.length) (h : Pen.inf ∈ pens) :
    passFixed (minMetric ((snrs.zip pens).map (fun x => metric x.1 x.2))) osnr margin = false ∧
    passAuto (minMetric ((snrs.zip pens).map (fun x => metric x.1 x.2))) osnr margin = false := by
  -- that channel's metric is −∞ (`none`), and `minMetric_spec` allows no `none` under a finite minimum
  rw [← List.map_snd_zip (l₁ := snrs) hlen.ge] at h
  obtain ⟨x, hx, hx2⟩ := List.mem_map.1 h
  have hn : none ∈ (snrs.zip pens).map (fun x => metric x.1 x.2) := List.mem_map.2 ⟨x, hx, by rw [hx2]; rfl⟩
  cases hm : minMetric ((snrs.zip pens).map (fun x => metric x.1 x.2)) with
  | none => exact ⟨rfl, rfl⟩
  | some v => obtain ⟨w, hw, -⟩ := (minMetric_spec _ v hm).2 none hn; cases hw

/-! ### the penalty tables as loaded (`Transceiver.__init__` of json_io) -/

/-- **penalty tables are normalised at load**: the result is ascending in the boundary; it consists of exactly the
library's entries, plus the point (0, 0) iff every boundary is positive — in which case (0, 0) is the first point. -/
theorem penalty_normalised (entries : List (ℝ × ℝ)) :
    (normalise entries).Pairwise (fun p q => p.1 ≤ q.1) ∧
    ((∀ e ∈ entries, 0 < e.1) → (normalise entries).Perm ((0, 0) :: entries) ∧
        (normalise entries).head? = some (0, 0)) ∧
    ((∃ e ∈ entries, ¬ 0 < e.1) → (normalise entries).Perm entries) := by
  rw [normalise_eq]
  refine ⟨sortAsc_sorted _, fun hall => ?_, fun ⟨e, he, hn⟩ => ?_⟩
  · rw [if_pos hall]
    refine ⟨sortAsc_perm _, ?_⟩
    rw [sortAsc_eq, List.insertionSort_cons_of_forall_rel _ (fun b hb => not_lt.2 (hall b hb).le)]; rfl
  · rw [if_neg fun hall => hn (hall e he)]; exact sortAsc_perm _

/-! ### the verdict: one direction, then the request (`compute_path_with_disjunction`) -/

/-- fixed mode: a direction passes iff its worst-channel metric exists (no infinite penalty) and, rounded to two
decimals, is at least OSNR + margin -/
theorem passFixed_iff (m : Option ℝ) (osnr margin : ℝ) :
    passFixed m osnr margin = true ↔ ∃ v, m = some v ∧ osnr + margin ≤ round2 v := by
  cases m <;> simp [passFixed]

/-- automatic selection: strictly above -/
theorem passAuto_iff (m : Option ℝ) (osnr margin : ℝ) :
    passAuto m osnr margin = true ↔ ∃ v, m = some v ∧ osnr + margin < round2 v := by
  cases m <;> simp [passAuto]

/-- **verdict of one direction, fixed mode.** For a threshold given with two decimals: the direction passes
whenever the worst-channel metric is at least the threshold, and whenever it passes — unless the rounded metric
equals the threshold exactly, the case the property does not judge — the worst-channel metric is above it. The two
verdict flavours (`≥` fixed, `>` automatic) differ only in that unjudged case. -/
theorem verdict_iff (v : ℝ) (k : ℤ) (osnr margin : ℝ) (hthr : osnr + margin = (k : ℝ) / 100) :
    (osnr + margin ≤ v → passFixed (some v) osnr margin = true) ∧
    (passFixed (some v) osnr margin = true → round2 v ≠ osnr + margin → osnr + margin < v) ∧
    (round2 v ≠ osnr + margin → passAuto (some v) osnr margin = passFixed (some v) osnr margin) := by
  -- a threshold on the two-decimal grid is its own rounding, and rounding is monotone
  have hg : round2 (osnr + margin) = osnr + margin := by rw [hthr, round2_grid]
  simp only [passFixed, passAuto, Bool.not_eq_true', decide_eq_false_iff_not, not_lt]
  refine ⟨fun h => hg ▸ round2_mono h, fun hp hne => lt_of_not_ge fun hv => hne (le_antisymm (hg ▸ round2_mono hv) hp),
    fun hne => ?_⟩
  rw [← decide_not]
  exact decide_eq_decide.2 (by rw [not_lt, le_iff_lt_or_eq, or_iff_left hne.symm])

/-- whatever the threshold: rounding moves the metric by at most 0.005 dB, so a direction whose worst channel is
0.005 dB or more above the threshold passes, and one more than 0.005 dB below it fails -/
theorem verdict_margin (v osnr margin : ℝ) :
    (osnr + margin + 1 / 200 ≤ v → passFixed (some v) osnr margin = true) ∧
    (v < osnr + margin - 1 / 200 → passFixed (some v) osnr margin = false) := by
  obtain ⟨h1, h2⟩ := abs_sub_le_iff.1 (abs_round2_sub_le v)
  refine ⟨fun hv => (passFixed_iff _ _ _).2 ⟨v, rfl, ?_⟩, fun hv => ?_⟩
  · exact (le_sub_iff_add_le.2 hv).trans (sub_le_comm.1 h2)
  · have : round2 v < osnr + margin := (sub_le_iff_le_add'.1 h1).trans_lt (lt_sub_iff_add_lt.1 hv)
    simp [passFixed, this]

/-- **request-level verdict, fixed mode**: reported feasible iff the forward direction passes and, when
bidirectional, the reverse direction passes too; otherwise MODE_NOT_FEASIBLE -/
theorem fixedReason_spec (f b r : Bool) :
    (fixedReason f b r = Reason.none ↔ (f = true ∧ (b = true → r = true))) ∧
    (fixedReason f b r ≠ Reason.none → fixedReason f b r = Reason.modeNotFeasible) := by
  cases f <;> cases b <;> cases r <;> simp [fixedReason]

/-- **request-level statement, fixed mode**: the request is reported feasible iff on the computed path — and on the
reverse path when bidirectional — no channel has an infinite penalty and the worst channel's GSNR(0.1 nm) minus
penalties, rounded to two decimals, is at least OSNR + margin -/
theorem request_verdict_iff (fwd rev : Option ℝ) (osnr margin : ℝ) (bidir : Bool) :
    fixedReason (passFixed fwd osnr margin) bidir (passFixed rev osnr margin) = Reason.none ↔
      (∃ v, fwd = some v ∧ osnr + margin ≤ round2 v) ∧
      (bidir = true → ∃ w, rev = some w ∧ osnr + margin ≤ round2 w) := by
  rw [(fixedReason_spec _ _ _).1, passFixed_iff, passFixed_iff]

/-! ### automatic mode selection (`propagate_and_optimize_mode`) -/

/-- what "feasible" means for a candidate: it passes on the propagation made with its own baud rate and offset -/
def FeasOwn (feas : (Int × Int) → Mode → Bool) (m : Mode) : Prop := feas (own m) m = true

/-- the three outcomes of the repaired loop, read off the exploration order -/
theorem selectMode_cases (feas : (Int × Int) → Mode → Bool) (modes : List Mode) (spacing : Int) :
    (∃ m as bs, selectMode feas modes spacing = .served m (own m) ∧ modeOrder modes spacing = as ++ m :: bs ∧
        FeasOwn feas m ∧ ∀ a ∈ as, ¬ FeasOwn feas a) ∨
    (∃ l, selectMode feas modes spacing = .noFeasibleMode l (own l) ∧ l ∈ modeOrder modes spacing ∧
        ∀ m ∈ modeOrder modes spacing, ¬ FeasOwn feas m) ∨
    (selectMode feas modes spacing = .noBaud ∧ modeOrder modes spacing = []) := by
  unfold selectMode
  simp only
  cases hf : (modeOrder modes spacing).find? (fun m => feas (own m) m) with
  | some m =>
    obtain ⟨hfe, as, bs, hsplit, hnot⟩ := List.find?_eq_some_iff_append.1 hf
    exact .inl ⟨m, as, bs, rfl, hsplit, hfe, fun a ha => by simpa [FeasOwn] using hnot a ha⟩
  | none =>
    have hnone : ∀ m ∈ modeOrder modes spacing, ¬ FeasOwn feas m := by simpa [FeasOwn] using hf
    cases hl : (modeOrder modes spacing).getLast? with
    | some l => exact .inr (.inl ⟨l, rfl, List.mem_of_getLast? hl, hnone⟩)
    | none => exact .inr (.inr ⟨rfl, List.getLast?_eq_none_iff.1 hl⟩)

/-- **the selected mode.** The mode returned by the (repaired) loop is a library mode that fits the spacing, is
feasible on its own propagation — which is also the propagation whose figures are reported — and no feasible
fitting mode has a higher baud rate, or the same baud rate and a higher bit rate. -/
theorem selectMode_spec (feas : (Int × Int) → Mode → Bool) (modes : List Mode) (spacing : Int) (m : Mode)
    (p : Int × Int) (h : selectMode feas modes spacing = Outcome.served m p) :
    p = own m ∧ m ∈ modes ∧ fits spacing m = true ∧ FeasOwn feas m ∧
    ∀ m' ∈ modes, fits spacing m' = true → FeasOwn feas m' →
      ¬ (m'.baud > m.baud ∨ (m'.baud = m.baud ∧ m'.bitRate > m.bitRate)) := by
  obtain ⟨m0, as, bs, h0, hsplit, hfe, hnot⟩ | ⟨l, h0, -⟩ | ⟨h0, -⟩ := selectMode_cases feas modes spacing
  · -- served: `m` is the first feasible mode of the exploration order
    cases h0.symm.trans h
    have hm := (mem_modeOrder modes spacing m).1 (hsplit ▸ List.mem_append_right _ List.mem_cons_self)
    refine ⟨rfl, hm.1, hm.2, hfe, fun m' hm' hfit hfeas hgt => ?_⟩
    have hmem' : m' ∈ modeOrder modes spacing := (mem_modeOrder modes spacing m').2 ⟨hm', hfit⟩
    have hsorted := modeOrder_sorted modes spacing
    rw [hsplit] at hmem' hsorted
    -- a better feasible `m'` stands neither before `m` (nothing there is feasible) nor at or behind it (the order)
    rcases List.mem_append.1 hmem' with hin | hin
    · exact hnot m' hin hfeas
    · rcases List.mem_cons.1 hin with rfl | hin
      · omega
      · have := (List.pairwise_cons.1 (List.pairwise_append.1 hsorted).2.1).1 m' hin
        unfold RateGe at this
        omega
  · cases h0.symm.trans h
  · cases h0.symm.trans h

/-- the propagation whose figures are reported for a served request is one on which the selected mode passes -/
theorem selectMode_served_feasible (feas : (Int × Int) → Mode → Bool) (modes : List Mode) (spacing : Int) (m : Mode)
    (p : Int × Int) (h : selectMode feas modes spacing = Outcome.served m p) : feas p m = true := by
  obtain ⟨hp, _, _, hf, _⟩ := selectMode_spec feas modes spacing m p h
  rw [hp]
  exact hf

/-- **the reason when no mode is served.** The loop answers NO_FEASIBLE_BAUDRATE_WITH_SPACING iff no library mode
fits the spacing, and NO_FEASIBLE_MODE iff some mode fits but none of the fitting modes is feasible on its own
propagation; the mode it then reports is a fitting library mode with its own propagation. -/
theorem none_feasible_reason (feas : (Int × Int) → Mode → Bool) (modes : List Mode) (spacing : Int) :
    (selectMode feas modes spacing = Outcome.noBaud ↔ ∀ m ∈ modes, fits spacing m = false) ∧
    ((∃ l p, selectMode feas modes spacing = Outcome.noFeasibleMode l p) ↔
      (∃ m ∈ modes, fits spacing m = true) ∧ ∀ m ∈ modes, fits spacing m = true → ¬ FeasOwn feas m) ∧
    (∀ l p, selectMode feas modes spacing = Outcome.noFeasibleMode l p →
      l ∈ modes ∧ fits spacing l = true ∧ p = own l) := by
  have hmem := mem_modeOrder modes spacing
  obtain ⟨m0, as, bs, h0, hsplit, hfe, -⟩ | ⟨l, h0, hl, hnone⟩ | ⟨h0, hnil⟩ := selectMode_cases feas modes spacing
  · -- served: `m0` fits and is feasible, which refutes both right-hand sides
    obtain ⟨hm0, hf0⟩ := (hmem m0).1 (hsplit ▸ List.mem_append_right _ List.mem_cons_self)
    simp only [h0, reduceCtorEq, false_iff, exists_false, false_imp_iff, implies_true, and_true]
    exact ⟨fun h => Bool.false_ne_true ((h m0 hm0).symm.trans hf0), fun h => h.2 m0 hm0 hf0 hfe⟩
  · -- no feasible mode: `l` fits, and no fitting mode is feasible
    obtain ⟨hl1, hl2⟩ := (hmem l).1 hl
    simp only [h0, reduceCtorEq, false_iff, Outcome.noFeasibleMode.injEq]
    refine ⟨fun h => Bool.false_ne_true ((h l hl1).symm.trans hl2), ⟨fun _ => ?_, fun _ => ⟨l, _, rfl, rfl⟩⟩, ?_⟩
    · exact ⟨⟨l, hl1, hl2⟩, fun m h1 h2 => hnone m ((hmem m).2 ⟨h1, h2⟩)⟩
    · rintro l' p ⟨rfl, rfl⟩
      exact ⟨hl1, hl2, rfl⟩
  · -- no mode fits
    have hno : ∀ m ∈ modes, fits spacing m = false := fun m hm =>
      Bool.eq_false_iff.2 fun hc => List.not_mem_nil (hnil ▸ (hmem m).2 ⟨hm, hc⟩)
    simp only [h0, reduceCtorEq, true_iff, false_iff, exists_false, false_imp_iff, implies_true, and_true]
    exact ⟨hno, fun ⟨⟨m, h1, h2⟩, _⟩ => Bool.false_ne_true ((hno m h1).symm.trans h2)⟩

/-- **request-level verdict, automatic selection**: reported feasible iff the loop served a mode and, when
bidirectional, the reverse direction passes too -/
theorem autoReason_spec (o : Outcome) (b r : Bool) :
    (autoReason o b r = Reason.none ↔ (∃ m p, o = Outcome.served m p) ∧ (b = true → r = true)) := by
  cases o <;> simp [autoReason]

/-! ### request acceptance (`_check_one_request`) -/

/-- a request document is accepted iff its transceiver type is known and, when a mode is named, the mode exists,
its baud rate does not exceed its min_spacing and the requested spacing is at least that min_spacing; otherwise the
error kind is the stated one -/
theorem requestCheck_spec (k g f : Bool) (baud ms sp : Int) :
    (requestCheck k g f baud ms sp = none ↔ k = true ∧ (g = true → f = true ∧ baud ≤ ms ∧ ms ≤ sp)) ∧
    (requestCheck k g f baud ms sp = some "ServiceError" ↔ k = true ∧ g = true ∧ f = true ∧ baud ≤ ms ∧ sp < ms) := by
  unfold requestCheck
  -- the Boolean tests evaluate; only a known type with a named mode that exists goes on to the two integer tests
  cases k <;> cases g <;> cases f <;> simp
  split_ifs with h1 h2
  · simp [h1.not_ge] -- `baud > min_spacing`: EquipmentConfigError
  · simp [not_lt.1 h1, h2, h2.not_ge] -- `min_spacing > spacing`: ServiceError
  · simp [not_lt.1 h1, not_lt.1 h2] -- accepted

/-! ### finding F9 (fixed in /repo as 5d202380): the loop as it was does not satisfy `selectMode_spec` -/

def f9A : Mode := { id := 0, baud := 32, bitRate := 200, minSpacing := 50, offset := 0 }
def f9B : Mode := { id := 1, baud := 32, bitRate := 100, minSpacing := 50, offset := 3 }
/-- A passes only on its own propagation (offset 0); B passes everywhere -/
def f9Feas (p : Int × Int) (m : Mode) : Bool := if m.id = 0 then decide (p.2 = 0) else true

/-- with two modes of one baud rate and different offsets the old loop judged A on B's propagation: it
returns B (100G) although A (200G) is feasible on its own propagation; the repaired loop returns A -/
theorem selectMode_fails_old :
    selectModeOld f9Feas [f9A, f9B] 50 = Outcome.served f9B (32, 3) ∧
    FeasOwn f9Feas f9A ∧ f9A.bitRate > f9B.bitRate ∧
    selectMode f9Feas [f9A, f9B] 50 = Outcome.served f9A (32, 0) := by
  refine ⟨by decide, by unfold FeasOwn; decide, by decide, by decide⟩

/-- conversely the old loop could serve a mode that is NOT feasible on its own propagation (and report the other
propagation's figures): here A passes only on B's propagation -/
theorem selectModeOld_accepts_infeasible :
    selectModeOld (fun p m => if m.id = 0 then decide (p.2 = 3) else false) [f9A, f9B] 50
      = Outcome.served f9A (32, 3) ∧
    ¬ FeasOwn (fun p m => if m.id = 0 then decide (p.2 = 3) else false) f9A := by
  refine ⟨by decide, by unfold FeasOwn; decide⟩

/-! ### non-vacuity -/
example : passFixed (some (27.262 : ℝ)) 24.9 2 = true := by
  rw [(verdict_margin 27.262 24.9 2).1]
  norm_num
example : linSum [some (41 : ℝ), none, some 40] = db2lin (-41) + (db2lin (-40) + 0) := by simp [linSum]
example : selectMode f9Feas [f9A, f9B] 50 = Outcome.served f9A (32, 0) := by decide
example : (normalise [((4000:ℝ), (0:ℝ)), (10000, 1.5)]).head? = some (0, 0) := by
  refine ((penalty_normalised _).2.1 fun e he => ?_).2
  simp at he
  rcases he with rfl | rfl <;> norm_num -- both boundaries are positive

end Gnpy.Verdict
