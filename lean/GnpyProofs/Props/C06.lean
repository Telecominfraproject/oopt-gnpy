import GnpyModel
import GnpyProofs.Lemmas.Db
/- Property theorems for C06 — a ROADM never amplifies and equalises every channel to its egress
   target.  Model: GnpyModel/Roadm.lean.  All statements over ℝ. -/
namespace Gnpy

/-- a key not yet in an association list is found once it has been appended -/
theorem lookup_append_new {α β : Type} [BEq α] [LawfulBEq α] {l : List (α × β)} {g : α} {v : β}
    (h : l.lookup g = none) : (l ++ [(g, v)]).lookup g = some v := by
  simp [List.lookup_append, h, List.lookup]

namespace Roadm

/-! ### equalisation (`Roadm.propagate`) -/

theorem absMinOrZero_eq_max (x : ℝ) : absMinOrZero x = max (-x) 0 := by
  simp only [absMinOrZero, transc_abs, Nat.cast_ofNat]
  rcases le_total 0 x with h | h
  · rw [abs_of_nonneg h, max_eq_right (neg_nonpos.2 h), sub_self, zero_div]
  · rw [abs_of_nonpos h, max_eq_left (neg_nonneg.2 h), sub_eq_add_neg, ← two_mul, mul_div_cancel_left₀ _ two_ne_zero]

/-- the attenuation applied after the max-loss stage is the excess of the net input over the target, if any -/
theorem deltaPower_eq (net t o : ℝ) : deltaPower net t o = max (net - (t + o)) 0 := by
  -- with `tp = t + o`: `net - (tp - max (tp - net) 0) = max (net - tp + (tp - net)) (net - tp + 0)`
  rw [deltaPower, absMinOrZero_eq_max, neg_sub, ← sub_add, ← max_add_add_left, add_zero, sub_add_sub_cancel',
    sub_self, max_comm]

/-- **C06, main statement (dBm form).** Each channel leaves with
`min(target + per-channel offset, input power − path loss)`; holds for every policy because the
policy only determines `target`. -/
theorem chanOutDbm_eq_min (i ml t o : ℝ) : chanOutDbm i ml t o = min (t + o) (i - ml) := by
  rw [chanOutDbm, deltaPower_eq, ← min_sub_sub_left, sub_sub_cancel, sub_zero]

/-- the literal linear-domain computation of `Roadm.propagate` agrees with the dBm statement -/
theorem chanOut_dbm (p ml t o : ℝ) (hp : 0 < p) :
    watt2dbm (chanOut p ml t o) = min (t + o) (watt2dbm p - ml) := by
  have hp1 : 0 < p * (1 / db2lin ml) := mul_pos hp (one_div_pos.2 (db2lin_pos ml))
  rw [chanOut, Nat.cast_one, watt2dbm_div_db2lin _ hp1, watt2dbm_div_db2lin _ hp]
  exact chanOutDbm_eq_min (watt2dbm p) ml t o

theorem deltaPower_nonneg (net t o : ℝ) : 0 ≤ deltaPower net t o :=
  deltaPower_eq net t o ▸ le_max_right _ _

/-- **No channel leaves a ROADM with more power than it entered** (linear units; path loss ≥ 0). -/
theorem never_amplifies (p ml t o : ℝ) (hp : 0 < p) (hml : 0 ≤ ml) : chanOut p ml t o ≤ p := by
  rw [chanOut, Nat.cast_one]
  exact (mul_one_div_db2lin_le (mul_nonneg hp.le (one_div_pos.2 (db2lin_pos ml)).le)
    (deltaPower_nonneg _ _ _)).trans (mul_one_div_db2lin_le hp.le hml)

/-- dBm form of `never_amplifies` -/
theorem never_amplifies_dbm (i ml t o : ℝ) (hml : 0 ≤ ml) : chanOutDbm i ml t o ≤ i := by
  rw [chanOutDbm_eq_min]
  exact (min_le_right _ _).trans (sub_le_self i hml)

/-- a channel arriving below its target is left unequalised (only the path loss applies) -/
theorem below_target_untouched (i ml t o : ℝ) (h : i - ml ≤ t + o) : chanOutDbm i ml t o = i - ml := by
  rw [chanOutDbm_eq_min, min_eq_right h]

/-- a channel arriving above its target leaves exactly at target + offset -/
theorem above_target_equalised (i ml t o : ℝ) (h : t + o ≤ i - ml) : chanOutDbm i ml t o = t + o := by
  rw [chanOutDbm_eq_min, min_eq_left h]

/-- reference channel: `ref_pch_out_dbm` is the same `min` -/
theorem refOut_eq_min (ri ml rt : ℝ) : refOut ri ml rt = min (ri - ml) rt := smin_eq_min _ _

/-- the effective loss of the reference channel is at least the path loss -/
theorem refLoss_ge (ri ml rt : ℝ) : ml ≤ refLoss ri ml rt := by
  rw [refLoss, refOut_eq_min, le_sub_comm]
  exact min_le_left _ _

/-! ### which target: degree settings, node policies (`get_per_degree_power`, `RoadmParams`, `merge_equalization`,
`set_roadm_per_degree_targets`) -/

/-- the egress degree's own constant-power setting wins -/
theorem degree_pch_wins (d : DegreeTargets ℝ) (t : NodeTargets ℝ) (g : String) (b s v : ℝ)
    (h : d.pch.lookup g = some v) : degreeTarget d t g b s = some v := by
  simp [degreeTarget, h]

/-- a degree PSD setting is converted with the channel's baud rate -/
theorem degree_psd_wins (d : DegreeTargets ℝ) (t : NodeTargets ℝ) (g : String) (b s v : ℝ)
    (h0 : d.pch.lookup g = none) (h : d.psd.lookup g = some v) :
    degreeTarget d t g b s = some (psd2powerdbm v b) := by
  simp [degreeTarget, h0, h]

/-- a degree power-per-slot-width setting is converted with the channel's slot width -/
theorem degree_psw_wins (d : DegreeTargets ℝ) (t : NodeTargets ℝ) (g : String) (b s v : ℝ)
    (h0 : d.pch.lookup g = none) (h1 : d.psd.lookup g = none) (h : d.psw.lookup g = some v) :
    degreeTarget d t g b s = some (psd2powerdbm v s) := by
  simp [degreeTarget, h0, h1, h]

/-- no setting on the degree: the node's -/
theorem degree_default (d : DegreeTargets ℝ) (t : NodeTargets ℝ) (g : String) (b s : ℝ)
    (h0 : d.pch.lookup g = none) (h1 : d.psd.lookup g = none) (h2 : d.psw.lookup g = none) :
    degreeTarget d t g b s = nodeTarget t b s := by
  simp [degreeTarget, h0, h1, h2]

/-- psd × baud rate expressed in dBm: `db2lin (psd2powerdbm psd B) = B · psd · 1e-9` (mW) -/
theorem psd2powerdbm_lin (psd b : ℝ) (hp : 0 < psd) (hb : 0 < b) :
    db2lin (psd2powerdbm psd b) = b * psd * (1 / 1000000000) := by
  simp only [psd2powerdbm, nano, Nat.cast_one, Nat.cast_ofNat]
  rw [db2lin_lin2db]; positivity

theorem paramsAccepted_iff (t : NodeTargets ℝ) : paramsAccepted t = true ↔ policyCount t ≤ 1 := by
  simp [paramsAccepted]

/-- at most one policy = no two policies -/
theorem paramsAccepted_eq (t : NodeTargets ℝ) : paramsAccepted t =
    !(t.pch.isSome && t.psd.isSome || t.pch.isSome && t.psw.isSome || t.psd.isSome && t.psw.isSome) := by
  unfold paramsAccepted policyCount
  generalize t.pch.isSome = a; generalize t.psd.isSome = b; generalize t.psw.isSome = c
  revert a b c; decide

/-- two node-level policies are always rejected (RoadmParams) -/
theorem two_policies_rejected (t : NodeTargets ℝ)
    (h : (t.pch.isSome ∧ t.psd.isSome) ∨ (t.pch.isSome ∧ t.psw.isSome) ∨ (t.psd.isSome ∧ t.psw.isSome)) :
    paramsAccepted t = false := by
  rw [paramsAccepted_eq]
  rcases h with ⟨a, b⟩ | ⟨a, b⟩ | ⟨a, b⟩ <;> simp [a, b]

/-- two equalisation types among the element's own keys are rejected by `merge_equalization` -/
theorem merge_rejects_two (a b c : Bool) (h : (a ∧ b) ∨ (a ∧ c) ∨ (b ∧ c)) :
    mergeEqualization a b c = none := by
  revert a b c; decide

/-- an element that states one policy drops the library default; one that states none keeps it -/
theorem merge_spec (a b c : Bool) :
    (mergeEqualization a b c = some true ↔ (a && !b && !c) || (!a && b && !c) || (!a && !b && c)) ∧
    (mergeEqualization a b c = some false ↔ (!a && !b && !c)) := by
  revert a b c; decide

/-- a library ROADM entry is accepted iff exactly one equalisation key is present -/
theorem eqpt_exactly_one (a b c : Bool) :
    eqptAccepted a b c = true ↔ (a && !b && !c) || (!a && b && !c) || (!a && !b && c) := by
  revert a b c; decide

/-- for an accepted ROADM with some policy, the target in force is that of the single policy given -/
theorem nodeTarget_single (t : NodeTargets ℝ) (b s : ℝ) (h : paramsAccepted t = true) :
    (∀ v, t.pch = some v → nodeTarget t b s = some v ∧ t.psd = none ∧ t.psw = none) ∧
    (∀ v, t.psd = some v → nodeTarget t b s = some (psd2powerdbm v b) ∧ t.pch = none ∧ t.psw = none) ∧
    (∀ v, t.psw = some v → nodeTarget t b s = some (psd2powerdbm v s) ∧ t.pch = none ∧ t.psd = none) := by
  obtain ⟨p, q, r⟩ := t
  rw [paramsAccepted_eq] at h
  -- which of the three are set: `h` excludes the cases with two, in the others `nodeTarget` evaluates
  cases p <;> cases q <;> cases r <;> simp_all [nodeTarget]

/-- a degree that already has a setting keeps everything as the user gave it -/
theorem populate_keeps_user (d : DegreeTargets ℝ) (t : NodeTargets ℝ) (g : String)
    (h : (d.pch.lookup g).isSome ∨ (d.psd.lookup g).isSome ∨ (d.psw.lookup g).isSome) :
    populateDegree d t g = some d := by
  simp only [populateDegree]
  rcases h with h | h | h <;> simp [h]

/-- a degree without a setting receives exactly the node default, in exactly one dictionary,
**whatever its value (0 dBm included)**; without any node default the design is rejected. -/
theorem populate_default (d : DegreeTargets ℝ) (t : NodeTargets ℝ) (g : String)
    (h0 : d.pch.lookup g = none) (h1 : d.psd.lookup g = none) (h2 : d.psw.lookup g = none)
    (hacc : paramsAccepted t = true) :
    (∀ v, t.pch = some v → ∃ d', populateDegree d t g = some d' ∧ d'.pch.lookup g = some v ∧
        d'.psd = d.psd ∧ d'.psw = d.psw) ∧
    (∀ v, t.psd = some v → ∃ d', populateDegree d t g = some d' ∧ d'.psd.lookup g = some v ∧
        d'.pch = d.pch ∧ d'.psw = d.psw) ∧
    (∀ v, t.psw = some v → ∃ d', populateDegree d t g = some d' ∧ d'.psw.lookup g = some v ∧
        d'.pch = d.pch ∧ d'.psd = d.psd) ∧
    (t.pch = none → t.psd = none → t.psw = none → populateDegree d t g = none) := by
  -- used for its `= none` parts only, which do not depend on baud rate and slot width (here 0, 0)
  obtain ⟨_, n2, n3⟩ := nodeTarget_single t 0 0 hacc
  refine ⟨fun v hv => ?_, fun v hv => ?_, fun v hv => ?_, fun a b c => ?_⟩
  · exact ⟨{ d with pch := d.pch ++ [(g, v)] }, by simp [populateDegree, h0, h1, h2, hv],
      lookup_append_new h0, rfl, rfl⟩
  · exact ⟨{ d with psd := d.psd ++ [(g, v)] }, by simp [populateDegree, h0, h1, h2, hv, (n2 v hv).2.1],
      lookup_append_new h1, rfl, rfl⟩
  · exact ⟨{ d with psw := d.psw ++ [(g, v)] },
      by simp [populateDegree, h0, h1, h2, hv, (n3 v hv).2.1, (n3 v hv).2.2], lookup_append_new h2, rfl, rfl⟩
  · simp [populateDegree, h0, h1, h2, a, b, c]

/-! ### impairment profile selection (which path loss enters the `min`) -/

/-- a `per_degree_impairments` entry selects exactly the named profile (on express connections whatever its
type, on add/drop connections when its type matches) -/
theorem select_user_wins (ps : List (Profile ℝ)) (i : Nat) (t : PType) (p : Profile ℝ)
    (hp : profileById ps i = some p) (ht : t = PType.express ∨ p.ptype = t) :
    selectProfile ps (some i) t = .ok (some p) := by
  simp only [selectProfile, hp]
  rcases ht with h | h <;> simp [h]

/-- an entry naming an unknown profile id is rejected -/
theorem select_unknown_rejected (ps : List (Profile ℝ)) (i : Nat) (t : PType)
    (hp : profileById ps i = none) : selectProfile ps (some i) t = .error "NetworkTopologyError" := by
  simp [selectProfile, hp]

/-- on an add or drop connection a profile of another path type is rejected -/
theorem select_mismatch_rejected (ps : List (Profile ℝ)) (i : Nat) (t : PType) (p : Profile ℝ)
    (hp : profileById ps i = some p) (ht : t ≠ PType.express) (hne : p.ptype ≠ t) :
    selectProfile ps (some i) t = .error "NetworkTopologyError" := by
  simp [selectProfile, hp, ht, hne]

/-- without an entry the first library profile of the connection's path type applies -/
theorem select_default_first (ps : List (Profile ℝ)) (t : PType) :
    selectProfile ps none t = .ok (firstOfType ps t) := rfl

theorem firstOfType_spec (ps : List (Profile ℝ)) (t : PType) (p : Profile ℝ) (h : firstOfType ps t = some p) :
    p ∈ ps ∧ p.ptype = t :=
  ⟨List.mem_of_find?_eq_some h, by simpa using List.find?_some h⟩

/-- no profile at all for this path type: the loss is the default 0 for every carrier -/
theorem maxloss_default_zero (f : ℝ) : maxlossOf (none : Option (Profile ℝ)) f = some 0 := by
  simp [maxlossOf]

theorem lookupBands_eq (bs : List (Band ℝ)) (f : ℝ) :
    lookupBands bs f = bs.findSome? fun b =>
      if b.lo.all (fun lo => decide (lo ≤ f ∧ f ≤ b.hi)) then b.value else none := by
  induction bs with
  | nil => rfl
  | cons b bs ih =>
    rw [lookupBands, List.findSome?_cons, ← ih]
    rcases b with ⟨_ | lo, hi, v⟩
    · cases v <;> rfl
    · -- with a lower bound both sides test `lo ≤ f ∧ f ≤ hi`
      simp only [Option.all_some, Bool.decide_and]
      split <;> cases v <;> rfl

/-- the value found for a carrier is the value of a band of the profile that contains the carrier -/
theorem lookupBands_sound (bs : List (Band ℝ)) (f v : ℝ) (h : lookupBands bs f = some v) :
    ∃ b ∈ bs, b.value = some v ∧ (b.lo = none ∨ ∃ lo, b.lo = some lo ∧ lo ≤ f ∧ f ≤ b.hi) := by
  rw [lookupBands_eq] at h
  obtain ⟨b, hb, hv⟩ := List.exists_of_findSome?_eq_some h
  obtain ⟨hin, hv⟩ := Option.ite_none_right_eq_some.1 hv
  refine ⟨b, hb, hv, ?_⟩
  cases hlo : b.lo with
  | none => exact .inl rfl
  | some lo => exact .inr ⟨lo, rfl, by simpa [hlo] using hin⟩

/-! ### non-vacuity -/
example : chanOutDbm (-15 : ℝ) 0 (-20) 1 = -19 := by
  rw [chanOutDbm_eq_min]; norm_num
example : chanOutDbm (-25 : ℝ) 2 (-20) 0 = -27 := by
  rw [chanOutDbm_eq_min]; norm_num
example : paramsAccepted ({ pch := some (0:ℝ), psd := none, psw := none } : NodeTargets ℝ) = true := by
  simp [paramsAccepted, policyCount]

end Roadm
end Gnpy
