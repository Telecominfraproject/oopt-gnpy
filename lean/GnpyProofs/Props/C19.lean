import GnpyModel
import GnpyProofs.Lemmas.RoundHE
import GnpyProofs.Lemmas.Response
import GnpyProofs.Lemmas.MapM
import GnpyProofs.Lemmas.ListIdioms
/- Property theorems for C19 — the reported response states exactly what was computed for each request.
   Model: GnpyModel/Response.lean. -/
namespace Gnpy.Response
open Gnpy.HE

/-! ### what `path_properties`, `detailed_path_json` and `pathresult` return when they do not raise -/

/-- what `path_properties` returns: the metrics of the forward receiver, those of the reverse receiver exactly when the
request is bidirectional, and the route objects `detailed_path_json` produced -/
theorem pathProperties_eq_ok {req : Req ℝ} {path : List El} {fwd rev : Option (Recv ℝ)} {p : J ℝ}
    (hp : pathProperties req path fwd rev = .ok p) :
    ∃ f d, fwd = some f ∧ detailedPath req path = .ok d ∧
      ((req.bidir = true ∧ ∃ r, rev = some r ∧
          p = .obj [("path-metric", pathMetric f req.power req.pathBandwidth),
                    ("z-a-path-metric", pathMetric r req.power req.pathBandwidth), ("path-route-objects", .arr d)]) ∨
       (req.bidir = false ∧
          p = .obj [("path-metric", pathMetric f req.power req.pathBandwidth), ("path-route-objects", .arr d)])) := by
  unfold pathProperties at hp
  cases fwd with
  | none => cases hp
  | some f =>
    cases hd : detailedPath req path with
    | error e => cases hb : req.bidir <;> cases rev <;> simp [hd, hb] at hp
    | ok d =>
      cases hb : req.bidir <;> simp only [hd, hb, if_true, Bool.false_eq_true, if_false] at hp
      · exact ⟨f, d, rfl, rfl, .inr ⟨rfl, (Except.ok.inj hp).symm⟩⟩
      · cases rev with
        | none => cases hp
        | some r => exact ⟨f, d, rfl, rfl, .inl ⟨rfl, r, rfl, (Except.ok.inj hp).symm⟩⟩

theorem pathProperties_routeObjects {req : Req ℝ} {path : List El} {fwd rev : Option (Recv ℝ)} {p : J ℝ}
    (hp : pathProperties req path fwd rev = .ok p) :
    ∃ d, detailedPath req path = .ok d ∧ p.get? "path-route-objects" = some (.arr d) := by
  obtain ⟨f, d, -, hd, ⟨-, r, -, rfl⟩ | ⟨-, rfl⟩⟩ := pathProperties_eq_ok hp <;>
    exact ⟨d, hd, by simp [J.get?, List.lookup]⟩

/-- the route objects of a non-empty path: all hops with labels for a served request (which must have N and M), all
hops without labels for a blocked one (which must have neither) -/
theorem detailedPath_eq_ok {req : Req ℝ} {e : El} {rest : List El} {d : List (J ℝ)}
    (h : detailedPath req (e :: rest) = .ok d) :
    (req.blocking = none ∧ ∃ n m, req.n = some n ∧ req.m = some m ∧ d = hopObjs req.tsp req.tspMode
      (some (.arr ((n.zip m).map (fun nm => .obj [("N", jOptInt nm.1), ("M", jOptInt nm.2)])))) 0 (e :: rest)) ∨
    ((∃ b, req.blocking = some b) ∧ req.n = none ∧ req.m = none ∧
      d = hopObjs req.tsp req.tspMode none 0 (e :: rest)) := by
  unfold detailedPath at h
  -- of the eight combinations only "served with N and M" and "blocked with neither" are not a ServiceError
  cases hb : req.blocking <;> cases hn : req.n <;> cases hm : req.m <;> simp only [hb, hn, hm] at h <;> cases h
  · exact .inl ⟨rfl, _, _, rfl, rfl, rfl⟩
  · exact .inr ⟨⟨_, rfl⟩, rfl, rfl, rfl⟩

/-- the three shapes of `pathresult` -/
theorem pathResult_eq_ok {req : Req ℝ} {path : List El} {fwd rev : Option (Recv ℝ)} {j : J ℝ}
    (h : pathResult req path fwd rev = .ok j) :
    (∃ b, req.blocking = some b ∧ blockingNoPath.contains b = true ∧
      j = .obj [("response-id", .str req.id), ("no-path", .obj [("no-path", .str b)])]) ∨
    (∃ b p, req.blocking = some b ∧ blockingNoPath.contains b = false ∧ pathProperties req path fwd rev = .ok p ∧
      j = .obj [("response-id", .str req.id), ("no-path", .obj [("no-path", .str b), ("path-properties", p)])]) ∨
    (∃ p, req.blocking = none ∧ pathProperties req path fwd rev = .ok p ∧
      j = .obj [("response-id", .str req.id), ("path-properties", p)]) := by
  unfold pathResult at h
  cases hb : req.blocking with
  | none =>
    cases hp : pathProperties req path fwd rev <;> simp only [hb, hp] at h <;> cases h
    exact .inr (.inr ⟨_, rfl, rfl, rfl⟩)
  | some b =>
    cases hc : blockingNoPath.contains b
    · cases hp : pathProperties req path fwd rev <;> simp only [hb, hp, hc] at h <;> cases h
      exact .inr (.inl ⟨b, _, rfl, hc, rfl, rfl⟩)
    · simp only [hb, hc, if_true] at h; cases h
      exact .inl ⟨b, rfl, hc, rfl⟩

/-! ### every request once, under its id -/

theorem pathResult_id (req : Req ℝ) (path : List El) (fwd rev : Option (Recv ℝ)) (j : J ℝ)
    (h : pathResult req path fwd rev = .ok j) : j.get? "response-id" = some (.str req.id) := by
  obtain ⟨b, -, -, rfl⟩ | ⟨b, p, -, -, -, rfl⟩ | ⟨p, -, -, rfl⟩ := pathResult_eq_ok h <;> simp [J.get?]

/-- **one response per request**: the response list has exactly one entry per (aggregated) request, in order, and
entry `i` carries the id of request `i` -/
theorem one_response_per_request (rs : List (Res ℝ)) (out : List (J ℝ)) (h : resultsToJson rs = .ok out) :
    out.length = rs.length ∧
    ∀ i (hi : i < rs.length) (ho : i < out.length), out[i].get? "response-id" = some (.str rs[i].req.id) := by
  obtain ⟨h1, h2⟩ := List.forall₂_iff_get.1 (Except.mapM_eq_ok.1 h)
  exact ⟨h1.symm, fun i hi ho => pathResult_id _ _ _ _ _ (h2 i hi ho)⟩

/-! ### aggregation of the requests (`requests_aggregation`) -/

/-- **what aggregation keeps.** For any request list with distinct positions whose entries are consistent with per-id
bandwidth / N / M tables (in particular the initial list, every request being its own single component):
the id components of the output are a permutation of those of the input (every input id in exactly one output
id when the input ids are distinct), the total bandwidth is conserved, and every output request carries the joined
id of its components (by definition of `idStr`), the SUM of their bandwidths and the concatenation of their N and M. -/
theorem aggregation_spec {κ : Type} [DecidableEq κ] (bw0 : String → ℝ) (n0 m0 : String → List (Option Int))
    (rs : List (AReq κ ℝ)) (hnd : (rs.map (·.pos)).Nodup) (hc : ∀ r ∈ rs, Consistent bw0 n0 m0 r) :
    (allParts (requestsAggregation rs)).Perm (allParts rs) ∧
    totalBw (requestsAggregation rs) = totalBw rs ∧
    ∀ r ∈ requestsAggregation rs,
      r.idStr = " | ".intercalate r.parts ∧ r.bw = (r.parts.map bw0).sum ∧
      r.n = r.parts.flatMap n0 ∧ r.m = r.parts.flatMap m0 := by
  have h : Inv bw0 n0 m0 rs (requestsAggregation rs) :=
    List.foldlRecOn (motive := Inv bw0 n0 m0 rs) _ _ ⟨hnd, .refl _, rfl, hc⟩ fun l hl i _ => aggStep_inv bw0 n0 m0 rs l i hl
  exact ⟨h.parts, h.bw, fun r hr => ⟨rfl, h.cons r hr⟩⟩

/-- with distinct input ids every input id sits in exactly one output id -/
theorem aggregation_exactly_once {κ : Type} [DecidableEq κ] (bw0 : String → ℝ) (n0 m0 : String → List (Option Int))
    (rs : List (AReq κ ℝ)) (hnd : (rs.map (·.pos)).Nodup) (hc : ∀ r ∈ rs, Consistent bw0 n0 m0 r)
    (hids : (allParts rs).Nodup) (x : String) (hx : x ∈ allParts rs) :
    (allParts (requestsAggregation rs)).count x = 1 := by
  have hp := (aggregation_spec bw0 n0 m0 rs hnd hc).1
  rw [hp.count_eq]
  exact List.count_eq_one_of_mem hids hx

/-! ### the three shapes of `ResultElement.json`: blocked without a path, blocked with properties, served -/

/-- **blocked, no path**: only the id and the reason -/
theorem blocked_nopath_shape (req : Req ℝ) (path : List El) (fwd rev : Option (Recv ℝ)) (b : String)
    (hb : req.blocking = some b) (hn : blockingNoPath.contains b = true) :
    pathResult req path fwd rev =
      .ok (.obj [("response-id", .str req.id), ("no-path", .obj [("no-path", .str b)])]) := by
  simp only [pathResult, hb, hn, if_true]

/-- every route object is a hop, a label hop carrying the request's labels, or a transponder object carrying the
request's type and mode -/
theorem mem_hopObjs {tsp : String} {mode : Option String} {labels : Option (J ℝ)} {idx : Nat} {path : List El} {o : J ℝ}
    (h : o ∈ hopObjs tsp mode labels idx path) :
    (∃ (i : Int) (uid : String), o = pro [("index", .int i),
        ("num-unnum-hop", .obj [("node-id", .str uid), ("link-tp-id", .str uid)])]) ∨
    (∃ (i : Int) (l : J ℝ), labels = some l ∧ o = pro [("index", .int i), ("label-hop", l)]) ∨
    (∃ i : Int, o = pro [("index", .int i),
        ("transponder", .obj [("transponder-type", .str tsp), ("transponder-mode", jOptStr mode)])]) := by
  induction path generalizing idx with
  | nil => cases h
  | cons e rest ih =>
    simp only [hopObjs, List.mem_cons, List.mem_append] at h
    rcases h with rfl | (h | h) | h
    · exact .inl ⟨_, _, rfl⟩
    · cases labels with
      | none => cases h
      | some l => exact .inr (.inl ⟨_, l, rfl, List.mem_singleton.1 h⟩)
    · split_ifs at h
      · exact .inr (.inr ⟨_, List.mem_singleton.1 h⟩)
      · cases h
    · exact ih h

/-- no route object produced for a blocked request carries a label hop -/
theorem hopObjs_no_labels (tsp : String) (mode : Option String) (idx : Nat) (path : List El) :
    ∀ o ∈ hopObjs (α := ℝ) tsp mode none idx path, (proOf o).hasKey "label-hop" = false := by
  intro o ho
  obtain ⟨i, u, rfl⟩ | ⟨i, l, hl, -⟩ | ⟨i, rfl⟩ := mem_hopObjs ho
  · simp [proOf, pro, J.get?, J.hasKey, List.lookup]
  · cases hl
  · simp [proOf, pro, J.get?, J.hasKey, List.lookup]

/-- **blocked with properties**: the reason is present, the path properties are attached under `no-path`, and no
route object carries N/M labels (a blocked request that still has N or M is refused with ServiceError) -/
theorem blocked_shape (req : Req ℝ) (path : List El) (fwd rev : Option (Recv ℝ)) (b : String) (j : J ℝ)
    (hb : req.blocking = some b) (hn : blockingNoPath.contains b = false)
    (h : pathResult req path fwd rev = .ok j) :
    ∃ p d, pathProperties req path fwd rev = .ok p ∧
      j = .obj [("response-id", .str req.id), ("no-path", .obj [("no-path", .str b), ("path-properties", p)])] ∧
      p.get? "path-route-objects" = some (.arr d) ∧
      (∀ o ∈ d, (proOf o).hasKey "label-hop" = false) ∧
      (path ≠ [] → req.n = none ∧ req.m = none) := by
  obtain ⟨b', hb', hc, -⟩ | ⟨b', p, hb', -, hp, rfl⟩ | ⟨p, hb', -⟩ := pathResult_eq_ok h
  · -- the shape without a path needs a reason of `blockingNoPath`
    rw [hb, Option.some.injEq] at hb'
    rw [hb', hc] at hn
    cases hn
  · obtain rfl := Option.some.inj (hb.symm.trans hb')
    obtain ⟨d, hdp, hget⟩ := pathProperties_routeObjects hp
    refine ⟨p, d, hp, rfl, hget, ?_⟩
    cases path with
    | nil =>
      cases hdp
      exact ⟨by simp, fun h => absurd rfl h⟩
    | cons e rest =>
      obtain ⟨h0, -⟩ | ⟨-, h1, h2, rfl⟩ := detailedPath_eq_ok hdp
      · cases hb.symm.trans h0
      · exact ⟨hopObjs_no_labels _ _ _ _, fun _ => ⟨h1, h2⟩⟩
  · cases hb.symm.trans hb'

/-- **served**: id and path properties only; route objects are, for every element of the propagated path in order,
the hop, then the label hop with the assigned (N, M) pairs, then — on transceivers — the transponder object with
the request's type and mode; indices count up from 0 -/
theorem served_shape (req : Req ℝ) (path : List El) (fwd rev : Option (Recv ℝ)) (j : J ℝ)
    (hb : req.blocking = none) (hne : path ≠ []) (h : pathResult req path fwd rev = .ok j) :
    ∃ p n m, pathProperties req path fwd rev = .ok p ∧ req.n = some n ∧ req.m = some m ∧
      j = .obj [("response-id", .str req.id), ("path-properties", p)] ∧
      p.get? "path-route-objects" = some (.arr (hopObjs req.tsp req.tspMode
        (some (.arr ((n.zip m).map (fun nm => .obj [("N", jOptInt nm.1), ("M", jOptInt nm.2)])))) 0 path)) := by
  obtain ⟨b', hb', -⟩ | ⟨b', p, hb', -⟩ | ⟨p, -, hp, rfl⟩ := pathResult_eq_ok h
  · cases hb.symm.trans hb'
  · cases hb.symm.trans hb'
  · obtain ⟨d, hdp, hget⟩ := pathProperties_routeObjects hp
    cases path with
    | nil => exact absurd rfl hne
    | cons e rest =>
      obtain ⟨-, n, m, hn, hm, rfl⟩ | ⟨⟨b, h0⟩, -⟩ := detailedPath_eq_ok hdp
      · exact ⟨p, n, m, hp, hn, hm, rfl, hget⟩
      · cases hb.symm.trans h0

/-! ### what the path properties carry: the selected mode, both directions, the receiver's figures -/

/-- the transponder objects of a path carry the request's type and mode (the SELECTED mode, `tsp_mode`) -/
theorem hopObjs_transponder (tsp : String) (mode : Option String) (labels : Option (J ℝ)) (idx : Nat) (path : List El) :
    ∀ o ∈ hopObjs tsp mode labels idx path, ∀ t, (proOf o).get? "transponder" = some t →
      t = .obj [("transponder-type", .str tsp), ("transponder-mode", jOptStr mode)] := by
  intro o ho t ht
  obtain ⟨i, u, rfl⟩ | ⟨i, l, -, rfl⟩ | ⟨i, rfl⟩ := mem_hopObjs ho <;>
    simp [proOf, pro, J.get?, List.lookup] at ht
  exact ht.symm -- only the transponder object has the key

/-- **bidirectional requests carry both directions**: `path-metric` is computed from the forward receiver and
`z-a-path-metric` from the REVERSE receiver; a unidirectional request has no `z-a-path-metric` -/
theorem bidir_has_both (req : Req ℝ) (path : List El) (f r : Recv ℝ) (p : J ℝ)
    (h : pathProperties req path (some f) (some r) = .ok p) :
    p.get? "path-metric" = some (pathMetric f req.power req.pathBandwidth) ∧
    (req.bidir = true → p.get? "z-a-path-metric" = some (pathMetric r req.power req.pathBandwidth)) ∧
    (req.bidir = false → p.get? "z-a-path-metric" = none) := by
  obtain ⟨f', d, hf, -, ⟨hb, r', hr, rfl⟩ | ⟨hb, rfl⟩⟩ := pathProperties_eq_ok h <;>
    cases hf <;> simp [J.get?, List.lookup, hb]
  -- left: the bidirectional shape, whose reverse metric is computed from `r' = r`
  cases hr
  rfl

/-- **metrics are the receiver's values rounded to two decimals**: each metric of a direction is read from the
receiver handed in for THAT direction (the list is the body of `pathMetric` written out, by `rfl`); proved beyond that:
the lowest SNR is a minimum of the receiver's values, and rounding moves the mean by at most 0.005 dB -/
theorem metrics_are_receiver_values (r : Recv ℝ) (power bw : ℝ) :
    pathMetric r power bw = .arr
      [ metricEntry "SNR-bandwidth" (.num (round2 (mean r.snr))),
        metricEntry "SNR-0.1nm" (.num (round2 (mean r.snr01))),
        metricEntry "OSNR-bandwidth" (.num (round2 (mean r.osnrAse))),
        metricEntry "OSNR-0.1nm" (.num (round2 (mean r.osnrAse01))),
        metricEntry "lowest_SNR-0.1nm" (optNum (minL r.snr01)),
        metricEntry "biggest_SNR-0.1nm" (optNum (maxL r.snr01)),
        metricEntry "PDL_penalty" (penMetric r "pdl"),
        metricEntry "CD_penalty" (penMetric r "chromatic_dispersion"),
        metricEntry "PMD_penalty" (penMetric r "pmd"),
        metricEntry "reference_power" (.num power),
        metricEntry "path_bandwidth" (.num bw) ] ∧
    (∀ v, minL r.snr01 = some v → v ∈ r.snr01 ∧ ∀ x ∈ r.snr01, v ≤ x) ∧
    |round2 (mean r.snr01) - mean r.snr01| ≤ 1 / 200 := by
  refine ⟨rfl, fun v hv => ?_, abs_round2_sub_le _⟩
  cases hl : r.snr01 with
  | nil => rw [hl] at hv; cases hv
  | cons a rest =>
    obtain rfl : rest.foldl (fun a b => if b < a then b else a) a = v := by simpa [hl, minL] using hv
    -- `minL` is the first-best fold for `<`
    obtain ⟨k1, x, hx, e⟩ := foldl_firstBest_cons id (fun x y : ℝ => x < y) (fun _ _ => lt_asymm)
      (fun _ _ _ h1 h2 => not_lt.2 ((not_lt.1 h2).trans (not_lt.1 h1))) a rest
    exact ⟨e ▸ hx, fun x hx => not_lt.1 (k1 x hx)⟩

/-! ### the CSV export (`jsontocsv`) -/

/-- **CSV row = response values**: of the fifteen parameter columns the ten looked up here carry, each under its own
name, the response's OSNR/SNR averages, SNR min/max and penalties verbatim, the library's required OSNR plus the system
margin, the hop string and the spectrum string (not stated: path bandwidth, SNR-bandwidth, baud rate, power, bit rate) -/
theorem csv_consistent (osnr snr snrbw smin smax pdl cd pmd power pbw : J ℝ) (mode : ModeInfo ℝ) (margin : ℝ)
    (pth sptrm : String) :
    ∃ vals, paramVals [osnr, snr, snrbw, smin, smax, pdl, cd, pmd, power, pbw] mode margin pth sptrm = some vals ∧
      (paramFields.zip vals).lookup "SNR-0.1nm (min)" = some smin ∧
      (paramFields.zip vals).lookup "SNR-0.1nm (max)" = some smax ∧
      (paramFields.zip vals).lookup "OSNR-0.1nm (average)" = some osnr ∧
      (paramFields.zip vals).lookup "SNR-0.1nm (average)" = some snr ∧
      (paramFields.zip vals).lookup "PDL_penalty" = some pdl ∧
      (paramFields.zip vals).lookup "CD_penalty" = some cd ∧
      (paramFields.zip vals).lookup "PMD_penalty" = some pmd ∧
      (paramFields.zip vals).lookup "min required OSNR (inc. margin)" = some (.num (mode.osnr + margin)) ∧
      (paramFields.zip vals).lookup "path" = some (.str pth) ∧
      (paramFields.zip vals).lookup "spectrum (N,M)" = some (.str sptrm) := by
  refine ⟨_, rfl, ?_⟩
  simp [paramFields, List.lookup]

/-- **pass flag = margin-inclusive threshold**: with a reported lowest SNR the flag is `lowest ≥ OSNR + margin` -/
theorem csv_pass_iff (x avg osnr margin : ℝ) :
    passFlag (.num x) (.num avg) (.num (osnr + margin)) = .ok (decide (osnr + margin ≤ x)) := by
  simp [passFlag, geJ]

/-- a request blocked without a path gives a row with only its id and the reason in the `Pass?` column -/
theorem csv_nopath_row (rid b : String) (lib : List (ModeInfo ℝ)) (margin : ℝ) (hn : blockingNoPath.contains b = true) :
    csvRow (.obj [("response-id", .str rid), ("no-path", .obj [("no-path", .str b)])]) lib margin =
      .ok (⟨[("response-id", .str rid), ("Pass?", .str b)]⟩, none, .str "") := by
  simp [csvRow, J.get?, List.lookup, List.contains_iff_mem.1 hn]

/-! ### non-vacuity -/
example : (requestsAggregation
    [({ pos := 0, parts := ["a"], key := 7, hasMode := true, bw := 100, n := [none], m := [none] } : AReq Nat Int),
     { pos := 1, parts := ["b"], key := 7, hasMode := true, bw := 300, n := [none], m := [none] }]).map
      (fun r => (r.parts, r.bw)) = [(["b", "a"], 400)] := by
  decide

end Gnpy.Response
