import GnpyModel
import GnpyProofs.Lemmas.Select
/- Property theorems for C10 — auto-selected amplifiers are allowed (own variety list, else adjacent ROADM
   restriction, else allowed_for_design; band cover; Raman only where allowed), capable whenever a permitted
   model is capable, and the quietest capable choice.  Model: GnpyModel/Select.lean; what its definitions return
   (`mem_…`, `…_eq`, `…_eq_some`): Lemmas/Select.lean.  Statements over ℝ. -/
namespace Gnpy.Select

/-! ### `get_node_restrictions`: precedence of the restriction sources -/

/-- the amplifier's own (non-empty) variety list wins -/
theorem restriction_own_list_first (c : NodeCtx) (x : String) (xs : List String)
    (h : c.varietyList = some (x :: xs)) : restrictionList c = x :: xs := by
  rw [restrictionList, h]

/-- without an own list, the booster restriction of the ROADM the amplifier follows is in force -/
theorem restriction_booster_second (c : NodeCtx) (x : String) (xs : List String)
    (h0 : c.varietyList = none ∨ c.varietyList = some [])
    (h : c.prevRoadmBooster = some (x :: xs)) : restrictionList c = x :: xs := by
  rcases h0 with h0 | h0 <;> rw [restrictionList, h0, h]

/-- without an own list and a booster restriction, the preamp restriction of the ROADM the amplifier precedes is in force -/
theorem restriction_preamp_third (c : NodeCtx) (x : String) (xs : List String)
    (h0 : c.varietyList = none ∨ c.varietyList = some [])
    (h1 : c.prevRoadmBooster = none ∨ c.prevRoadmBooster = some [])
    (h : c.nextRoadmPreamp = some (x :: xs)) : restrictionList c = x :: xs := by
  rcases h0 with h0 | h0 <;> rcases h1 with h1 | h1 <;> rw [restrictionList, h0, h1, h]

/-- without any of the three sources there is no restriction list (and `allowed_for_design` decides) -/
theorem restriction_none (c : NodeCtx)
    (h0 : c.varietyList = none ∨ c.varietyList = some [])
    (h1 : c.prevRoadmBooster = none ∨ c.prevRoadmBooster = some [])
    (h2 : c.nextRoadmPreamp = none ∨ c.nextRoadmPreamp = some []) : restrictionList c = [] := by
  rcases h0 with h0 | h0 <;> rcases h1 with h1 | h1 <;> rcases h2 with h2 | h2 <;>
    rw [restrictionList, h0, h1, h2]

/-! ### `get_node_restrictions`: the permitted set -/

/-- a type_variety given by the user is the only permitted model -/
theorem user_variety_wins (lib : List (AmpSpec ℝ)) (c : NodeCtx) (b : Band) (h : c.typeVariety ≠ "") :
    nodeRestrictions lib c b = [c.typeVariety] := by
  simp [nodeRestrictions, h]

/-- **the permitted set is sound**: every permitted name is a single-band library model that covers the design
band and is in the restriction list in force (or, without one, allowed for design) -/
theorem nodeRestrictions_permitted (lib : List (AmpSpec ℝ)) (c : NodeCtx) (b : Band) (n : String)
    (h0 : c.typeVariety = "") (h : n ∈ nodeRestrictions lib c b) :
    ∃ a ∈ lib, a.name = n ∧ a.isMulti = false ∧ a.fMin ≤ b.fMin ∧ b.fMax ≤ a.fMax ∧
      (n ∈ restrictionList c ∨ (restrictionList c = [] ∧ a.allowedForDesign = true)) :=
  (mem_nodeRestrictions lib c b n h0).1 h

/-- the permitted set is complete: nothing that qualifies is left out -/
theorem nodeRestrictions_complete (lib : List (AmpSpec ℝ)) (c : NodeCtx) (b : Band) (a : AmpSpec ℝ)
    (h0 : c.typeVariety = "") (ha : a ∈ lib) (hm : a.isMulti = false) (h1 : a.fMin ≤ b.fMin) (h2 : b.fMax ≤ a.fMax)
    (h3 : a.name ∈ restrictionList c ∨ (restrictionList c = [] ∧ a.allowedForDesign = true)) :
    a.name ∈ nodeRestrictions lib c b :=
  (mem_nodeRestrictions lib c b _ h0).2 ⟨a, ha, rfl, hm, h1, h2, h3⟩

/-- the permitted multiband entries: multiband, in the restriction list in force (or allowed for design when
there is none), and every member covers one of the design bands -/
theorem nodeRestrictionsMulti_permitted (lib : List (AmpSpec ℝ)) (c : NodeCtx) (bands : List Band) (n : String)
    (h0 : c.typeVariety = "") (h : n ∈ nodeRestrictionsMulti lib c bands) :
    ∃ m ∈ lib, m.name = n ∧ m.isMulti = true ∧
      (n ∈ restrictionList c ∨ (restrictionList c = [] ∧ m.allowedForDesign = true)) ∧
      ∀ t ∈ m.multiBand.getD [], ∃ a b, lookup lib t = some a ∧ b ∈ bands ∧ a.covers b = true := by
  simp only [nodeRestrictionsMulti, h0, ne_eq, not_true_eq_false, if_false, List.mem_map, List.mem_filter] at h
  obtain ⟨m, ⟨⟨hm, hc⟩, hall⟩, rfl⟩ := h
  simp only [Bool.and_eq_true, allowedBy, Bool.or_eq_true, List.contains_iff_mem, List.isEmpty_iff] at hc
  refine ⟨m, hm, rfl, hc.1, hc.2, ?_⟩
  intro t ht
  -- `t` is in `edfa_eqpt`, i.e. it is the name `t'` that the `filterMap` kept for a band `b` its model covers
  have := List.all_eq_true.1 hall t ht
  simp only [List.contains_iff_mem, List.mem_flatMap, List.mem_filterMap] at this
  obtain ⟨m', _, t', _, b, hb, hopt⟩ := this
  split at hopt
  · next a hlk =>
    split at hopt
    · next hcov => cases hopt; exact ⟨a, b, hlk, hb, hcov⟩
    · cases hopt
  · cases hopt

/-! ### `select_edfa`: the choice is permitted, capable if anybody is, and the quietest -/

/-- **the chosen model is one of the models offered** (the permitted set) and is Raman only if Raman is allowed -/
theorem selected_mem_permitted (lib : List (AmpSpec ℝ)) (ok : Bool) (g p e : ℝ) (ch : Choice ℝ)
    (h : selectEdfa lib ok g p e = some ch) :
    ∃ a ∈ lib, a.name = ch.variety ∧ (a.raman = false ∨ ok = true) ∧ ch.power = powerAttr a g p e ∧
      ch.gainMin = gainMinAttr a g ∧ ch.nf = edfaNf a g := by
  obtain ⟨l, c, hl, hc, rfl⟩ := selectEdfa_eq_some h
  have hmem := acceptable_subset hl (argminNf_first l c hc).1
  obtain ⟨a, ha, hr, rfl⟩ := (mem_candidates ..).1 hmem
  exact ⟨a, ha, rfl, hr, rfl, rfl, rfl⟩

/-- **Raman models are used only where allowed** -/
theorem raman_only_if_allowed (lib : List (AmpSpec ℝ)) (g p e : ℝ) (ch : Choice ℝ)
    (h : selectEdfa lib false g p e = some ch) : ∃ a ∈ lib, a.name = ch.variety ∧ a.raman = false := by
  obtain ⟨a, ha, hn, hr, _⟩ := selected_mem_permitted lib false g p e ch h
  exact ⟨a, ha, hn, hr.resolve_right Bool.false_ne_true⟩

/-- with the library `set_one_amplifier` builds from the permitted names, the chosen model is a permitted,
single-band library model -/
theorem selected_in_restrictions (lib : List (AmpSpec ℝ)) (r : List String) (ok : Bool) (g p e : ℝ) (ch : Choice ℝ)
    (hr : r ≠ []) (h : selectEdfa (selectionLibrary lib r) ok g p e = some ch) :
    ch.variety ∈ r ∧ ∃ a ∈ lib, a.name = ch.variety ∧ a.isMulti = false := by
  obtain ⟨a, ha, hn, _⟩ := selected_mem_permitted _ ok g p e ch h
  obtain ⟨hal, hm, hin⟩ := (mem_selectionLibrary lib r a).1 ha
  exact ⟨hn ▸ hin.resolve_left hr, a, hal, hn, hm⟩

/-- the chosen model **covers the design band** when the permitted names come from `get_node_restrictions` -/
theorem selected_covers_band (lib : List (AmpSpec ℝ)) (c : NodeCtx) (b : Band) (ok : Bool) (g p e : ℝ)
    (ch : Choice ℝ) (h0 : c.typeVariety = "") (hne : nodeRestrictions lib c b ≠ [])
    (h : selectEdfa (selectionLibrary lib (nodeRestrictions lib c b)) ok g p e = some ch) :
    ∃ a ∈ lib, a.name = ch.variety ∧ a.isMulti = false ∧ a.fMin ≤ b.fMin ∧ b.fMax ≤ a.fMax ∧
      (ch.variety ∈ restrictionList c ∨ (restrictionList c = [] ∧ a.allowedForDesign = true)) := by
  obtain ⟨hin, _⟩ := selected_in_restrictions lib _ ok g p e ch hne h
  exact nodeRestrictions_permitted lib c b ch.variety h0 hin

/-- **capable if anybody is**: if some offered model (Raman only where allowed) can deliver the gain
(`gain_min` attribute > 0) and the power (`power` attribute > 0, extended-gain allowance included) then so can
the chosen one -/
theorem capable_if_any_capable (lib : List (AmpSpec ℝ)) (ok : Bool) (g p e : ℝ) (ch : Choice ℝ)
    (hcap : ∃ a ∈ lib, (a.raman = false ∨ ok = true) ∧ 0 < gainMinAttr a g ∧ 0 < powerAttr a g p e)
    (h : selectEdfa lib ok g p e = some ch) : 0 < ch.gainMin ∧ 0 < ch.power := by
  obtain ⟨l, c, hl, hc, rfl⟩ := selectEdfa_eq_some h
  rw [acceptable_of_capable lib ok g p e hcap] at hl
  cases hl
  simpa using (List.mem_filter.1 (argminNf_first _ c hc).1).2

/-- **quietest**: no acceptable candidate has a lower NF than the chosen one -/
theorem nf_minimal_among_acceptable (lib : List (AmpSpec ℝ)) (ok : Bool) (g p e : ℝ) (ch : Choice ℝ)
    (l : List (Cand ℝ)) (hl : acceptable (edfaList lib g p e) (ramanList lib ok g p e) = some l)
    (h : selectEdfa lib ok g p e = some ch) : ∀ x ∈ l, nfLt x.nf ch.nf = false := by
  obtain ⟨l', c, hl', hc, rfl⟩ := selectEdfa_eq_some h
  cases hl.symm.trans hl'
  exact (argminNf_first l c hc).2

/-- **no permitted capable model has a lower noise figure at that gain** -/
theorem nf_minimal_among_capable (lib : List (AmpSpec ℝ)) (ok : Bool) (g p e : ℝ) (ch : Choice ℝ)
    (h : selectEdfa lib ok g p e = some ch) (a : AmpSpec ℝ) (ha : a ∈ lib) (hr : a.raman = false ∨ ok = true)
    (hg : 0 < gainMinAttr a g) (hp : 0 < powerAttr a g p e) : nfLt (edfaNf a g) ch.nf = false :=
  nf_minimal_among_acceptable lib ok g p e ch _ (acceptable_of_capable lib ok g p e ⟨a, ha, hr, hg, hp⟩) h
    (cand a g p e) (List.mem_filter.2 ⟨(mem_candidates ..).2 ⟨a, ha, hr, rfl⟩, by simp [cand, hg, hp]⟩)

/-- **fall-back**: when nobody among the gain-acceptable candidates can deliver the power, the chosen one is
within 0.3 dB of the best available power, and NF-minimal among those -/
theorem fallback_spec (l : List (Cand ℝ)) (c : Cand ℝ) (hne : l ≠ []) (hno : ∀ x ∈ l, ¬ 0 < x.power)
    (hc : argminNf (powerStage l) = some c) :
    c ∈ l ∧ maxPower l - 3 / 10 < c.power ∧ (∀ x ∈ l, x.power ≤ maxPower l) ∧
    ∀ x ∈ l, maxPower l - 3 / 10 < x.power → nfLt x.nf c.nf = false := by
  obtain ⟨hm, hmin⟩ := argminNf_first _ c hc
  have := (mem_powerStage_fallback l hno c).1 hm
  exact ⟨this.1, this.2, (maxPower_spec hne).1,
    fun x hx hp => hmin x ((mem_powerStage_fallback l hno x).2 ⟨hx, hp⟩)⟩

/-- the power reduction is `min(power attribute of the chosen model, 0)` -/
theorem reduction_spec (lib : List (AmpSpec ℝ)) (ok : Bool) (g p e : ℝ) (ch : Choice ℝ)
    (h : selectEdfa lib ok g p e = some ch) : ch.powerReduction = min ch.power 0 ∧ ch.powerReduction ≤ 0 := by
  obtain ⟨l, c, _, _, rfl⟩ := selectEdfa_eq_some h
  have e : smin c.power Edfa.zero = min c.power 0 := by rw [smin_eq_min, Edfa.zero_eq]
  exact ⟨e, e ▸ min_le_right _ _⟩

theorem reduction_zero_if_capable (lib : List (AmpSpec ℝ)) (ok : Bool) (g p e : ℝ) (ch : Choice ℝ)
    (hcap : ∃ a ∈ lib, (a.raman = false ∨ ok = true) ∧ 0 < gainMinAttr a g ∧ 0 < powerAttr a g p e)
    (h : selectEdfa lib ok g p e = some ch) : ch.powerReduction = 0 := by
  have hp := (capable_if_any_capable lib ok g p e ch hcap h).2
  rw [(reduction_spec lib ok g p e ch h).1]
  exact min_eq_right (le_of_lt hp)

/-- the selection is refused (ConfigurationError) exactly when there is no non-Raman model to fall back on and
no (allowed) Raman model reaches its minimum gain -/
theorem select_none_iff (lib : List (AmpSpec ℝ)) (ok : Bool) (g p e : ℝ) :
    selectEdfa lib ok g p e = none ↔
      edfaList lib g p e = [] ∧ ∀ x ∈ ramanList lib ok g p e, ¬ 0 < x.gainMin := by
  rw [← acceptable_eq_none_iff]
  simp only [selectEdfa]
  constructor
  · intro h
    split at h
    · next hl => exact hl
    · next l hl =>
      obtain ⟨c, hc⟩ := argminNf_some (acceptable_ne_nil hl)
      rw [hc] at h
      cases h
  · intro h
    rw [h]

/-- **Raman only after a fibre whose every loss entry is below the limit** (per-frequency loss tables): with the
`raman_allowed` flag the code computes from the previous node, a Raman model can only be chosen when that node
is a fibre and ALL entries of its loss-coefficient table are below `max_fiber_lineic_loss_for_raman` -/
theorem raman_only_after_low_loss_fibre (lib : List (AmpSpec ℝ)) (isFiber : Bool) (loss : List ℝ) (limit g p e : ℝ)
    (ch : Choice ℝ) (h : selectEdfa lib (ramanAllowed isFiber loss limit) g p e = some ch) :
    ∃ a ∈ lib, a.name = ch.variety ∧
      (a.raman = true → isFiber = true ∧ ∀ l ∈ loss, l < limit * (1 / 1000)) := by
  obtain ⟨a, ha, hn, hr, _⟩ := selected_mem_permitted lib _ g p e ch h
  exact ⟨a, ha, hn, fun hra => (ramanAllowed_spec isFiber loss limit).1 (hr.resolve_left (by simp [hra]))⟩

/-- one entry of the table at or above the limit is enough to forbid Raman (a table straddling the limit) -/
theorem ramanAllowed_table_straddling (isFiber : Bool) (loss : List ℝ) (limit x : ℝ) (hx : x ∈ loss)
    (hge : limit * (1 / 1000) ≤ x) : ramanAllowed isFiber loss limit = false :=
  Bool.eq_false_iff.2 fun ht => absurd (((ramanAllowed_spec isFiber loss limit).1 ht).2 x hx) (not_lt.2 hge)

/-- when no candidate reaches its minimum gain (3 dB allowance for EDFAs, none for Raman) the non-Raman models
are used with input padding — a Raman model is never chosen below its minimum gain -/
theorem gain_fallback_spec (e r : List (Cand ℝ)) (hno : ∀ x ∈ e ++ r, ¬ 0 < x.gainMin) (hne : e ≠ []) :
    acceptable e r = some (powerStage e) := by
  rw [acceptable_eq, if_neg (fun ⟨x, hx, hp⟩ => hno x hx hp), if_neg hne]

/-- **C10 in one statement** (single-band `Edfa` node without user type): whatever auto-design chooses is a
single-band library model that covers the design band, comes from the restriction source in force (own list,
else ROADM booster, else ROADM preamp, else allowed_for_design), is Raman only if Raman is allowed, is capable
whenever some permitted model is capable, and no permitted capable model is quieter at that gain. -/
theorem auto_selection_main (lib : List (AmpSpec ℝ)) (c : NodeCtx) (b : Band) (ok : Bool) (g p e : ℝ)
    (ch : Choice ℝ) (h0 : c.typeVariety = "") (hne : nodeRestrictions lib c b ≠ [])
    (h : selectEdfa (selectionLibrary lib (nodeRestrictions lib c b)) ok g p e = some ch) :
    (∃ a ∈ lib, a.name = ch.variety ∧ a.isMulti = false ∧ a.fMin ≤ b.fMin ∧ b.fMax ≤ a.fMax ∧
      (ch.variety ∈ restrictionList c ∨ (restrictionList c = [] ∧ a.allowedForDesign = true))) ∧
    (ok = false → ∃ a ∈ lib, a.name = ch.variety ∧ a.raman = false) ∧
    (∀ a ∈ lib, a.isMulti = false → a.name ∈ nodeRestrictions lib c b → (a.raman = false ∨ ok = true) →
      0 < gainMinAttr a g → 0 < powerAttr a g p e →
      0 < ch.gainMin ∧ 0 < ch.power ∧ ch.powerReduction = 0 ∧ nfLt (edfaNf a g) ch.nf = false) := by
  refine ⟨selected_covers_band lib c b ok g p e ch h0 hne h, ?_, ?_⟩
  · intro hok
    subst hok
    obtain ⟨a, ha, hn, hr⟩ := raman_only_if_allowed _ g p e ch h
    exact ⟨a, ((mem_selectionLibrary lib _ a).1 ha).1, hn, hr⟩
  · intro a ha hm hin hr hg hp
    have ha' := (mem_selectionLibrary lib _ a).2 ⟨ha, hm, Or.inr hin⟩
    obtain ⟨c1, c2⟩ := capable_if_any_capable _ ok g p e ch ⟨a, ha', hr, hg, hp⟩ h
    exact ⟨c1, c2, reduction_zero_if_capable _ ok g p e ch ⟨a, ha', hr, hg, hp⟩ h,
      nf_minimal_among_capable _ ok g p e ch h a ha' hr hg hp⟩

/-! ### multiband preselection (`preselect_multiband_amps`, `find_type_varieties`) -/

/-- every multiband entry that survives one band lists a model which the filter accepted for that band (the part of
"eligible for all the bands" that holds band by band; for the per-band choice and `find_type_variety` that follow see
`band_pick_spec`, `multiband_choice_sound_if_single_entry`, `multiband_result_unpermitted_iff`) -/
theorem preselect_sound_partial (lib : List (AmpSpec ℝ)) (e : ℝ) (sel out : List String) (bt : BandTarget ℝ)
    (h : preselectStep lib e sel bt = some out) :
    ∀ m ∈ out, m ∈ sel ∧ ∃ l, acceptable (edfaList (bandEqpt lib sel bt.band) bt.gain bt.power e)
        (ramanList (bandEqpt lib sel bt.band) true bt.gain bt.power e) = some l ∧
      ∃ c ∈ l, ∃ a ∈ lib, a.name = m ∧ (a.multiBand.getD []).contains c.variety = true := by
  simp only [preselectStep] at h
  split at h
  · cases h
  · next l hl =>
    cases h
    intro m hm
    obtain ⟨h1, h2⟩ := List.mem_filter.1 hm
    refine ⟨h1, l, hl, ?_⟩
    simp only [List.contains_iff_mem, findTypeVarieties, List.mem_flatten, List.mem_map] at h2
    obtain ⟨lst, ⟨t, ⟨c, hc, rfl⟩, rfl⟩, hm2⟩ := h2
    simp only [List.mem_map, List.mem_filter] at hm2
    obtain ⟨a, ⟨ha, hcont⟩, rfl⟩ := hm2
    exact ⟨c, hc, a, ha, rfl, hcont⟩

theorem preselectLoop_sub (lib : List (AmpSpec ℝ)) (e : ℝ) (bts : List (BandTarget ℝ)) :
    ∀ (sel out : List String), preselectLoop lib e sel bts = some out → ∀ m ∈ out, m ∈ sel := by
  induction bts with
  | nil =>
    intro sel out h m hm
    cases h
    exact hm
  | cons bt rest ih =>
    intro sel out h m hm
    rw [preselectLoop] at h
    split at h
    · cases h
    · next sel' hs => exact (preselect_sound_partial lib e sel sel' bt hs m (ih sel' out h m hm)).1

/-- **multiband preselection stays inside the permitted set** (repaired behaviour, fix F17): every single-band
model returned by `preselect_multiband_amps` is a member of one of the permitted multiband entries -/
theorem preselect_sound (lib : List (AmpSpec ℝ)) (e : ℝ) (r : List String) (bts : List (BandTarget ℝ))
    (out : List String) (h : preselect lib e r bts = some out) :
    ∀ t ∈ out, ∃ m ∈ r, ∃ a, lookup lib m = some a ∧ t ∈ a.multiBand.getD [] := by
  obtain ⟨sel, hsel, rfl⟩ := Option.map_eq_some_iff.1 h
  intro t ht
  obtain ⟨m, hm, hmem⟩ := (mem_membersOf ..).1 ht
  exact ⟨m, preselectLoop_sub lib e bts r sel hsel m hm, hmem⟩

private def wC1 : AmpSpec ℝ :=
  { name := "c1", multiBand := none, raman := false, allowedForDesign := true, fMin := 0, fMax := 10,
    gainFlatmax := 20, gainMin := 10, pMax := 20,
    nf := .single { model := .fixedGain 5, gainMin := 10, gainFlatmax := 20 } }
private def wM (n : String) (allowed : Bool) : AmpSpec ℝ :=
  { wC1 with name := n, multiBand := some ["c1"], allowedForDesign := allowed }

/-- **the code before fix F17 left the permitted set**: library `c1`, multiband `M1 = [c1]` (permitted) and
`M2 = [c1]` (not permitted); after one band the selected multiband entries contain `M2`. -/
theorem preselect_old_leaves_permitted_set :
    ∃ out, preselectStepOld [wC1, wM "M1" true, wM "M2" false] 0 ["M1"] ⟨⟨1, 9⟩, 15, 10⟩ = some out ∧
      "M2" ∈ out ∧ "M2" ∉ ["M1"] := by
  have hb : bandEqpt [wC1, wM "M1" true, wM "M2" false] ["M1"] ⟨1, 9⟩ = [wC1] := rfl
  simp only [preselectStepOld, hb]
  cases hacc : acceptable (edfaList [wC1] (15:ℝ) 10 0) (ramanList [wC1] true (15:ℝ) 10 0) with
  | none => exact absurd ((acceptable_eq_none_iff _ _).1 hacc).1 (List.cons_ne_nil _ _)
  | some l =>
    refine ⟨_, rfl, ?_, by decide⟩
    -- whatever the filter accepts is the one candidate `c1`, which `M2` lists
    obtain ⟨y, hy⟩ := List.exists_mem_of_ne_nil l (acceptable_ne_nil hacc)
    have hv : y.variety = "c1" := by
      rcases List.mem_append.1 (acceptable_subset hacc hy) with h | h
      · rw [List.mem_singleton.1 h]; rfl
      · cases h
    rw [mem_dedup]
    simp only [findTypeVarieties, List.mem_flatten, List.mem_map]
    exact ⟨_, ⟨"c1", ⟨y, hy, hv⟩, rfl⟩, by decide⟩

/-! ### the whole `Multiband_amplifier` branch of `set_egress_amplifier` -/

/-- when all per-band picks are members of ONE permitted entry `m` (and no other entry of the library
lists them all — libraries with twin entries are out of scope), the node receives exactly that entry:
`type_variety = m`, a permitted multiband type whose members contain every pick -/
theorem multiband_choice_sound_if_single_entry (lib : List (AmpSpec ℝ)) (ext : ℝ) (c : NodeCtx) (ok : Bool)
    (bts : List (BandTarget ℝ)) (d : MultiDesign) (m : String) (ms : List String)
    (h : multibandDesign lib ext c ok bts = some d)
    (hm : (m, ms) ∈ entriesOf lib) (hperm : m ∈ d.permitted) (hall : ∀ p ∈ d.picks, p ∈ ms)
    (huniq : ∀ e ∈ entriesOf lib, (∀ p ∈ d.picks, p ∈ e.2) → e.1 = m) :
    d.candidates.head? = some m ∧ (∀ t ∈ d.candidates, t = m) ∧ m ∈ d.permitted ∧ ∀ p ∈ d.picks, p ∈ ms := by
  obtain ⟨_, _, hc, hne⟩ := multibandDesign_eq_some h
  rw [hc] at hne ⊢
  exact ⟨(findTypeVariety_unique huniq hne).1, (findTypeVariety_unique huniq hne).2, hperm, hall⟩

/-- **the open finding `multiband-per-band-choices-form-unpermitted-type`, characterised**: (twin entries
excluded) the type the node receives lies outside the permitted set **iff** the independently chosen per-band
picks are not jointly listed by any permitted entry -/
theorem multiband_result_unpermitted_iff (lib : List (AmpSpec ℝ)) (ext : ℝ) (c : NodeCtx) (ok : Bool)
    (bts : List (BandTarget ℝ)) (d : MultiDesign) (t : String)
    (h : multibandDesign lib ext c ok bts = some d) (ht : d.candidates.head? = some t)
    (huniq : ∀ e ∈ entriesOf lib, ∀ e' ∈ entriesOf lib, (∀ p ∈ d.picks, p ∈ e.2) → (∀ p ∈ d.picks, p ∈ e'.2) → e.1 = e'.1) :
    t ∉ d.permitted ↔ ¬ ∃ e ∈ entriesOf lib, e.1 ∈ d.permitted ∧ ∀ p ∈ d.picks, p ∈ e.2 := by
  obtain ⟨_, _, hc, _⟩ := multibandDesign_eq_some h
  obtain ⟨_, et, het, hname, hpt⟩ := (findTypeVarietyE_mem _ d.picks t).1 (hc ▸ List.mem_of_mem_head? ht)
  constructor
  · rintro hnot ⟨e, he, hperm, hp⟩
    rw [huniq e he et het hp hpt, hname] at hperm
    exact hnot hperm
  · intro hno hperm
    exact hno ⟨et, het, hname ▸ hperm, hpt⟩

/-- the witness of the open finding (library of corpus/C10/per_band_mix.json): permitted `m0=(c1,l0)`,
`m2=(c1,l1)`, `m3=(c0,l0)`; the independent picks `l1` (a member of m2) and `c0` (a member of m3) are grouped only
by `m1=(c0,l1)`, which is not permitted -/
theorem per_band_mix_witness :
    let es := [("m0", ["c1", "l0"]), ("m1", ["c0", "l1"]), ("m2", ["c1", "l1"]), ("m3", ["c0", "l0"])]
    let permitted := ["m0", "m2", "m3"]
    findTypeVarietyE es ["l1", "c0"] = ["m1"] ∧ "m1" ∉ permitted ∧
    (∀ p ∈ ["l1", "c0"], ∃ e ∈ es, e.1 ∈ permitted ∧ p ∈ e.2) ∧
    ¬ ∃ e ∈ es, e.1 ∈ permitted ∧ ∀ p ∈ ["l1", "c0"], p ∈ e.2 := by
  decide

/-- a band's pick under a non-empty restriction list is one of the listed models that cover the band -/
theorem bandPick_mem {lib : List (AmpSpec ℝ)} {ext : ℝ} {ok : Bool} {redfa : List String} {bt : BandTarget ℝ}
    {pk : String} (h : bandPick lib ext ok redfa bt = some pk) (hne : bandRestrictions lib redfa bt.band ≠ []) :
    pk ∈ redfa ∧ ∃ a, lookup lib pk = some a ∧ a.covers bt.band = true := by
  obtain ⟨ch, hsel, rfl⟩ := Option.map_eq_some_iff.1 h
  exact (mem_bandRestrictions ..).1 (selected_in_restrictions lib _ ok _ _ _ ch hne hsel).1

/-- **each band's pick, by the single-band theorems**: the pick of a band is the result of `select_edfa` on the
library restricted to the preselected models covering that band; it is capable whenever one of those models is,
no capable one is quieter, and — when that restriction list is not empty — it is a preselected model covering the
band, hence a member of a permitted multiband entry -/
theorem band_pick_spec (lib : List (AmpSpec ℝ)) (ext : ℝ) (ok : Bool) (r redfa : List String) (bts : List (BandTarget ℝ))
    (bt : BandTarget ℝ) (pk : String) (hpre : preselect lib ext r bts = some redfa)
    (h : bandPick lib ext ok redfa bt = some pk) :
    ∃ ch, selectEdfa (selectionLibrary lib (bandRestrictions lib redfa bt.band)) ok bt.gain bt.power ext = some ch ∧
      ch.variety = pk ∧
      (∀ a ∈ selectionLibrary lib (bandRestrictions lib redfa bt.band), (a.raman = false ∨ ok = true) →
        0 < gainMinAttr a bt.gain → 0 < powerAttr a bt.gain bt.power ext →
        0 < ch.gainMin ∧ 0 < ch.power ∧ nfLt (edfaNf a bt.gain) ch.nf = false) ∧
      (bandRestrictions lib redfa bt.band ≠ [] →
        (∃ a, lookup lib pk = some a ∧ a.covers bt.band = true) ∧
        ∃ m ∈ r, ∃ am, lookup lib m = some am ∧ pk ∈ am.multiBand.getD []) := by
  obtain ⟨ch, hsel, rfl⟩ := Option.map_eq_some_iff.1 h
  refine ⟨ch, hsel, rfl, ?_, ?_⟩
  · intro a ha hr hg hp
    obtain ⟨c1, c2⟩ := capable_if_any_capable _ ok _ _ _ ch ⟨a, ha, hr, hg, hp⟩ hsel
    exact ⟨c1, c2, nf_minimal_among_capable _ ok _ _ _ ch hsel a ha hr hg hp⟩
  · intro hne
    obtain ⟨hmem, hcov⟩ := bandPick_mem h hne
    exact ⟨hcov, preselect_sound lib ext r bts redfa hpre ch.variety hmem⟩

/-- a designed node: the preselection succeeded on the permitted entries and every band has its pick (`band_pick_spec`) -/
theorem multiband_band_picks (lib : List (AmpSpec ℝ)) (ext : ℝ) (c : NodeCtx) (ok : Bool)
    (bts : List (BandTarget ℝ)) (d : MultiDesign) (h : multibandDesign lib ext c ok bts = some d) :
    preselect lib ext d.permitted bts = some d.preselected ∧
    List.Forall₂ (fun bt pk => bandPick lib ext ok d.preselected bt = some pk) bts d.picks := by
  obtain ⟨hpre, hpick, _, _⟩ := multibandDesign_eq_some h
  exact ⟨hpre, pickAll_eq_some hpick⟩

/-! ### a user-typed `Multiband_amplifier` -/

/-- a typed node whose listed amplifiers were accepted at load time lists only members of its type -/
theorem typedLoad_members (lib : List (AmpSpec ℝ)) (tv : String) (listed : List String)
    (h : typedLoadOk lib tv listed = true) (hne : listed ≠ []) :
    ∃ e ∈ entriesOf lib, e.1 = tv ∧ ∀ p ∈ listed, p ∈ e.2 := by
  simp only [typedLoadOk, Bool.or_eq_true, List.isEmpty_iff, List.contains_iff_mem] at h
  rcases h with h | h
  · exact absurd h hne
  · exact ((findTypeVarietyE_mem _ listed tv).1 h).2

/-- one amplifier of a typed node: it keeps its own type_variety, or receives a model chosen by `select_edfa`
which — the typed entry having a member that covers the amplifier's band — is a member of the typed entry
covering that band (`bandPick` being `select_edfa` on those members, `capable_if_any_capable` and
`nf_minimal_among_capable` apply to it as in `band_pick_spec`) -/
theorem typedPick_spec (lib : List (AmpSpec ℝ)) (ext : ℝ) (ok : Bool) (members : List String)
    (a : BandTarget ℝ × String) (pk : String) (h : typedPick lib ext ok members a = some pk) :
    (a.2 ≠ "" ∧ pk = a.2) ∨
    (a.2 = "" ∧ bandPick lib ext ok members a.1 = some pk ∧
      (bandRestrictions lib members a.1.band ≠ [] →
        pk ∈ members ∧ ∃ s, lookup lib pk = some s ∧ s.covers a.1.band = true)) := by
  rw [typedPick] at h
  split at h
  · next hown => exact Or.inl ⟨hown, (Option.some.inj h).symm⟩
  · next hown => exact Or.inr ⟨not_not.1 hown, h, bandPick_mem h⟩

/-- **typed element**: when the design is not rejected, every amplifier of the node keeps its own type or gets
a member of the typed entry covering its band, and the name the node ends with is an entry listing all of them;
if the typed entry is the only entry listing them, the user's type_variety is kept -/
theorem typed_design_sound (lib : List (AmpSpec ℝ)) (ext : ℝ) (tv : String) (ok : Bool)
    (amps : List (BandTarget ℝ × String)) (d : MultiDesign) (h : typedDesign lib ext tv ok amps = some d) :
    ∃ e, lookup lib tv = some e ∧
      List.Forall₂ (fun a pk => typedPick lib ext ok (e.multiBand.getD []) a = some pk) amps d.picks ∧
      (∀ t ∈ d.candidates, ∃ en ∈ entriesOf lib, en.1 = t ∧ ∀ p ∈ d.picks, p ∈ en.2) ∧
      ((∀ en ∈ entriesOf lib, (∀ p ∈ d.picks, p ∈ en.2) → en.1 = tv) → d.candidates.head? = some tv) := by
  obtain ⟨e, he, hp, hc, hne⟩ := typedDesign_eq_some h
  rw [hc] at hne ⊢
  exact ⟨e, he, typedPickAll_eq_some hp, fun t' ht' => ((findTypeVarietyE_mem _ d.picks t').1 ht').2,
    fun huniq => (findTypeVariety_unique huniq hne).1⟩

/-! ### non-vacuity -/

example : restrictionList ⟨"", some [], some ["b"], some ["p"]⟩ = ["b"] := by decide
example : nfLt (none : Option ℝ) (some 3) = true := rfl
example : ramanAllowed true [(2:ℝ) / 10000] (25 / 100) = true := by
  rw [ramanAllowed_spec]
  refine ⟨rfl, fun l hl => ?_⟩
  rw [List.mem_singleton.1 hl]
  norm_num

end Gnpy.Select
