import GnpyModel
import GnpyProofs.Lemmas.Gn
import GnpyProofs.Lemmas.Fiber
import GnpyProofs.Lemmas.Raman
/- Property theorems for C05 — fibre spans apply exactly their loss budget and accumulate CD, PMD, PDL, latency.
   Model: GnpyModel/Fiber.lean (+ Gn.lean for the loss coefficient).  All statements over ℝ. -/
namespace Gnpy.Raman

-- About `Fiber.createLumped`, but the C05 check audits it under this `Raman` name; it stands first because
-- `Fiber.lumped_once` needs it.
/-- the merged grid carries every lumped loss exactly once: the product of all its factors is the product of the
lumped losses of the fibre -/
theorem createLumped_prod (lumped : List (ℝ × ℝ)) (z : List ℝ) :
    Gnpy.Fiber.prodL ((Gnpy.Fiber.createLumped lumped z).map (·.2)) = Gnpy.Fiber.prodL (lumped.map (·.2)) := by
  -- the grid points carry the factor 1
  rw [Gnpy.Fiber.createLumped, Gnpy.Fiber.foldl_insert_prod, List.map_append, Gnpy.Fiber.prodL_append, List.map_map,
    Gnpy.Fiber.prodL_ones (l := z.map _) (by simp), mul_one]
  simp [Gnpy.Fiber.prodL]

end Gnpy.Raman

namespace Gnpy.Fiber
open Gnpy.Gn

/-! ### the grid built by `_create_lumped_losses` -/

/-- `_create_lumped_losses` returns strictly increasing positions (`numpy.unique`) -/
theorem createLumped_sorted (lumped : List (ℝ × ℝ)) (z : List ℝ) :
    ((createLumped lumped z).map (·.1)).Pairwise (· < ·) :=
  List.foldlRecOn (motive := fun acc => (acc.map (·.1)).Pairwise (· < ·)) _ _ List.Pairwise.nil
    fun acc h pt _ => insertPoint_sorted pt acc h

/-! ### the loss budget (Raman off) -/

/-- `exp(−α L)` with `α = loss / (10 log10 e)` is exactly `loss · L` dB of attenuation -/
theorem exp_alpha_is_db (c len : ℝ) : Real.exp (-(alphaOfLoss c * len)) = db2lin (-(c * len)) := by
  rw [alpha_is_db, db2lin_eq]; congr 1; ring

/-- **each lumped loss multiplies exactly once** (no-Raman profile): the attenuation at the fibre end is
`exp(−αL) · Π lumped`, wherever the losses sit (also several at one position, also on a grid point) -/
theorem lumped_once (alpha len : ℝ) (lumped : List (ℝ × ℝ)) :
    fibreLossLin alpha len lumped = Real.exp (-(alpha * len)) * prodL (lumped.map (·.2)) := by
  rw [fibreLossLin, Raman.createLumped_prod, transc_exp]

/-- the whole of `Fiber.propagate` (Raman off) on one channel is one multiplication by `db2lin(−budget)` -/
theorem propagateP_eq (p conIn attIn c len conOut : ℝ) (lumpedKm : List (ℝ × ℝ)) :
    propagateP p conIn attIn (alphaOfLoss c) len (mkLumped lumpedKm) conOut
      = p * db2lin (-(attIn + conIn + c * len + sumL (lumpedKm.map (·.2)) + conOut)) := by
  simp only [propagateP, applyAttDb, Nat.cast_one]
  rw [lumped_once, exp_alpha_is_db, prodL_mkLumped, one_div, one_div, ← db2lin_neg, ← db2lin_neg]
  rw [mul_assoc, mul_assoc, ← db2lin_add, ← db2lin_add, ← db2lin_add]
  congr 2; ring

/-- **loss budget**: with Raman off every channel is attenuated, in dB, by exactly
`padding + input connector + length × loss coefficient + Σ lumped losses + output connector` -/
theorem loss_budget (p conIn attIn c len conOut : ℝ) (lumpedKm : List (ℝ × ℝ)) (hp : 0 < p) :
    lin2db (p / propagateP p conIn attIn (alphaOfLoss c) len (mkLumped lumpedKm) conOut)
      = attIn + conIn + c * len + sumL (lumpedKm.map (·.2)) + conOut := by
  rw [propagateP_eq, div_mul_cancel_left₀ hp.ne', ← db2lin_neg, neg_neg, lin2db_db2lin]

/-- the loss budget on the span record: the loss coefficient is the one of the channel's own frequency
(scalar or interpolated per frequency) -/
theorem span_loss_budget (s : Span ℝ) (lumpedKm : List (ℝ × ℝ)) (f p c : ℝ) (hl : s.lumped = mkLumped lumpedKm)
    (hc : lossCoef s.fib f = some c) (hp : 0 < p) :
    ∃ pout, spanOut s f p = some pout ∧
      lin2db (p / pout) = s.attIn + s.conIn + c * s.fib.len + sumL (lumpedKm.map (·.2)) + s.conOut := by
  refine ⟨propagateP p s.conIn s.attIn (alphaOfLoss c) s.fib.len s.lumped s.conOut, ?_, ?_⟩
  · simp [spanOut, alphaAt, hc]
  · rw [hl]; exact loss_budget p s.conIn s.attIn c s.fib.len s.conOut lumpedKm hp

/-- BEFORE FIX 74081ba1 (finding F12): of two lumped losses at the same position only the first was applied
(`numpy.unique(..., return_index=True)` kept one entry per position).  Witness on the model of the old code:
losses 1/2 and 1/2 at z = 1 of a fibre of length 2 leave the factor 1/2, the budget demands 1/4. -/
theorem lumped_same_position_failed_before_fix :
    prodL ((([((1:ℝ), (1/2:ℝ)), (1, 1/2), (0, 1), (2, 1)] : List (ℝ × ℝ)).foldl
        (fun a pt => insertPointFirstWins pt a) []).map (·.2)) = 1 / 2 ∧
    prodL ((createLumped [((1:ℝ), (1/2:ℝ)), (1, 1/2)] [0, 2]).map (·.2)) = 1 / 4 := by
  constructor
  · norm_num [insertPointFirstWins, prodL]
  · norm_num [createLumped, insertPoint, prodL]

/-! ### accumulation of CD, latency (linear) and PMD, PDL (quadrature) over a path -/

/-- **chromatic dispersion adds linearly over the elements of a path** -/
theorem cd_additive (a : Acc ℝ) (cs : List (Contribution ℝ)) :
    (accPath a cs).cd = a.cd + (cs.map (·.cd)).sum := by rw [accPath_eq]

/-- **latency adds linearly over the elements of a path** -/
theorem latency_additive (a : Acc ℝ) (cs : List (Contribution ℝ)) :
    (accPath a cs).latency = a.latency + (cs.map (·.latency)).sum := by rw [accPath_eq]

/-- the repeated update `x ← sqrt(x² + b²)` is the root of the sum of squares -/
theorem quadrature_fold (x0 : ℝ) (bs : List ℝ) (h : 0 ≤ x0) :
    bs.foldl quadStep x0 = Real.sqrt (x0 ^ 2 + (bs.map (fun b => b ^ 2)).sum) := by
  induction bs generalizing x0 with
  | nil => simp [Real.sqrt_sq h]
  | cons b rest ih => rw [List.foldl_cons, ih _ (quadStep_nonneg x0 b), quadStep_sq, List.map_cons, List.sum_cons, add_assoc]

/-- the repeated update `x ← sqrt(x² + b²)` does not depend on the order of the contributions `b` -/
theorem quadrature_perm (x0 : ℝ) (bs bs' : List ℝ) (h : 0 ≤ x0) (hp : bs.Perm bs') :
    bs.foldl quadStep x0 = bs'.foldl quadStep x0 := by
  rw [quadrature_fold x0 bs h, quadrature_fold x0 bs' h, (hp.map _).sum_eq]

/-- **PMD adds in quadrature over fibres, ROADMs and amplifiers together** -/
theorem pmd_quadrature (a : Acc ℝ) (cs : List (Contribution ℝ)) (h : 0 ≤ a.pmd) :
    (accPath a cs).pmd = Real.sqrt (a.pmd ^ 2 + (cs.map (fun c => c.pmd ^ 2)).sum) := by
  rw [accPath_eq, quadrature_fold _ _ h, List.map_map]; rfl

/-- **PDL adds in quadrature over ROADMs and amplifiers** (a fibre contributes 0) -/
theorem pdl_quadrature (a : Acc ℝ) (cs : List (Contribution ℝ)) (h : 0 ≤ a.pdl) :
    (accPath a cs).pdl = Real.sqrt (a.pdl ^ 2 + (cs.map (fun c => c.pdl ^ 2)).sum) := by
  rw [accPath_eq, quadrature_fold _ _ h, List.map_map]; rfl

/-- **the accumulated CD, PMD, PDL and latency do not depend on the order of the spans, ROADMs and amplifiers** -/
theorem path_order_irrelevant (a : Acc ℝ) (cs cs' : List (Contribution ℝ)) (hp : cs.Perm cs')
    (h1 : 0 ≤ a.pmd) (h2 : 0 ≤ a.pdl) : accPath a cs = accPath a cs' := by
  rw [accPath_eq, accPath_eq, (hp.map _).sum_eq, (hp.map _).sum_eq, quadrature_perm _ _ _ h1 (hp.map _),
    quadrature_perm _ _ _ h2 (hp.map _)]

/-! ### what one fibre contributes -/

theorem fibre_pmd_sq (k len : ℝ) (h : 0 ≤ len) : fibrePmd k len ^ 2 = k ^ 2 * len := by
  simp only [fibrePmd, transc_sqrt]
  rw [mul_pow, Real.sq_sqrt h]

/-- a fibre leaves the PDL as it is -/
theorem fibre_pdl_unchanged (x : ℝ) (h : 0 ≤ x) : quadStep x ((0:Nat):ℝ) = x := by
  simp only [quadStep, transc_sqrt, Nat.cast_zero, mul_zero, add_zero]
  exact Real.sqrt_mul_self h

theorem latency_formula (len : ℝ) : latency len = len * n1 / cLight :=
  div_div_eq_mul_div len cLight n1

/-- at the reference frequency the span adds exactly `D · length` of chromatic dispersion -/
theorem cd_at_ref (d b3 fr len : ℝ) (hf : 0 < fr) :
    chromaticDispersion (beta2OfDisp fr d) b3 fr fr len = d * len := by
  have hpi := Real.pi_pos
  simp only [chromaticDispersion, beta2OfDisp, cLight, haspi_real, Nat.cast_ofNat]
  field_simp
  ring

/-! ### a long fibre cut into equal spans (auto-design `split_fiber`) -/

/-- **cutting a fibre into `n` equal spans changes none of the accumulated figures**: the `n` sub-spans of length
`L/n` add, together, the chromatic dispersion, PMD (in quadrature), PDL and latency of the one fibre of length `L` -/
theorem split_span_invariant (a : Acc ℝ) (b2 b3 f fr len k : ℝ) (n : Nat) (hn : 0 < n) (hlen : 0 ≤ len)
    (h1 : 0 ≤ a.pmd) (h2 : 0 ≤ a.pdl) :
    accPath a (List.replicate n (fibreContribution b2 b3 f fr (len / n) k))
      = accPath a [fibreContribution b2 b3 f fr len k] := by
  have hn' : (n:ℝ) ≠ 0 := Nat.cast_ne_zero.2 hn.ne'
  -- every figure of a fibre is `K · length`
  have hK : ∀ K : ℝ, (n:ℝ) * (K * (len / n)) = K * len := fun K => by rw [mul_left_comm, mul_div_cancel₀ _ hn']
  rw [accPath_eq, accPath_eq, quadrature_fold _ _ h1, quadrature_fold _ _ h2, quadrature_fold _ _ h1,
    quadrature_fold _ _ h2]
  simp only [List.map_replicate, List.sum_replicate, List.map_cons, List.map_nil, List.sum_cons, List.sum_nil,
    fibreContribution, nsmul_eq_mul, add_zero, fibre_pmd_sq k _ hlen, fibre_pmd_sq k _ (div_nonneg hlen n.cast_nonneg),
    chromaticDispersion, latency, hK]
  -- left are the PDL squares, `n · 0²` against `0²`, and the latency `n · (len / n / (c / n₁))`, which `hK` does not match
  rw [Nat.cast_zero, zero_pow two_ne_zero, mul_zero, div_right_comm, mul_div_cancel₀ _ hn']

/-! ### non-vacuity -/
example : lumpedPositionsOk (80000:ℝ) [((20:ℝ), (1:ℝ)), (20, 2)] = true := by
  norm_num [lumpedPositionsOk]
example : (0:ℝ) ≤ ({ cd := 0, pmd := 0, pdl := 0, latency := 0 } : Acc ℝ).pmd := le_refl _
example : [lumpedContribution (1:ℝ) 2, fibreContribution 1 0 1 1 1 1].Perm
    [fibreContribution 1 0 1 1 1 1, lumpedContribution (1:ℝ) 2] := List.Perm.swap _ _ _

end Gnpy.Fiber

/-! ## Raman on (model: namespace Gnpy.Raman in GnpyModel/Fiber.lean)

Of the unidirectional solver: theorems about zero Raman efficiency (both methods give the plain attenuation law, Euler up
to its step error) and about the first-order term of the perturbative method; then the spontaneous Raman scattering
computed from the solver's profiles (sign and pump order).  NOT theorems (monitor only, see PARTIAL in
harness/props/c05.py): `raman_methods_agree_partial` — "perturbative and numerical agree" is a numerical-analysis
statement with a resolution- and power-dependent error; the iterative co/counter-propagating algorithm and the
full-order gain-only statement. -/
namespace Gnpy.Raman

/-! ### method `numerical`: explicit Euler -/

/-- **explicit Euler, zero Raman efficiency**: the last column of the power profile is, on every frequency,
`p · Π_k (1 − α Δz_k) · lumped_k` – each lumped loss of the grid exactly once -/
theorem euler_zero_cr (alpha : List ℝ) (cr : List (List ℝ)) (hz : MZero cr) :
    ∀ (grid : List (ℝ × ℝ)) (p : List ℝ), cr.length = p.length → alpha.length = p.length →
      ∃ init, euler alpha cr p grid = init ++ [scaleBy (fun a => eulerFactor a grid) p alpha]
  | [], p, _, h2 | [_], p, _, h2 => by
    refine ⟨[], ?_⟩
    simp [euler, eulerFactor, scaleBy_one h2.symm]
  | g0 :: g1 :: rest, p, h1, h2 => by
    obtain ⟨init, hinit⟩ := euler_zero_cr alpha cr hz (g1 :: rest)
      (scaleBy (fun a => (1 - a * (g1.1 - g0.1)) * g0.2) p alpha) (by simp [h1, h2]) (by simp [h2])
    refine ⟨p :: init, ?_⟩
    rw [euler, eulerStep, eulerStepGo_zero p _ _ p alpha cr hz h1, hinit, scaleBy_scaleBy]
    rfl

/-- what the grid spans: `Σ Δz_k` -/
def gridSpan : List (ℝ × ℝ) → ℝ
  | g0 :: g1 :: rest => (g1.1 - g0.1) + gridSpan (g1 :: rest)
  | _ => 0
/-- `Σ Δz_k²` -/
def gridSq : List (ℝ × ℝ) → ℝ
  | g0 :: g1 :: rest => (g1.1 - g0.1) ^ 2 + gridSq (g1 :: rest)
  | _ => 0
/-- the product of the lumped factors that an Euler step applies: all but the last point's -/
def gridLoss : List (ℝ × ℝ) → ℝ
  | g0 :: g1 :: rest => g0.2 * gridLoss (g1 :: rest)
  | _ => 1
/-- every step is resolved (`0 ≤ α Δz ≤ 1/2`) and every lumped factor is positive -/
def GridOk (a : ℝ) : List (ℝ × ℝ) → Prop
  | g0 :: g1 :: rest => 0 ≤ a * (g1.1 - g0.1) ∧ a * (g1.1 - g0.1) ≤ 1 / 2 ∧ 0 < g0.2 ∧ GridOk a (g1 :: rest)
  | _ => True

theorem gridLoss_pos (a : ℝ) : ∀ (grid : List (ℝ × ℝ)), GridOk a grid → 0 < gridLoss grid
  | [], _ | [_], _ => one_pos
  | _ :: g1 :: rest, ⟨_, _, hl, hrest⟩ => mul_pos hl (gridLoss_pos a (g1 :: rest) hrest)

/-- one resolved Euler step (`x = α Δz ≤ 1/2`) against the exponential law -/
theorem one_sub_exp_bounds (x : ℝ) (hx : x ≤ 1 / 2) :
    Real.exp (-x - 2 * x ^ 2) ≤ 1 - x ∧ 1 - x ≤ Real.exp (-x) := by
  refine ⟨?_, Real.one_sub_le_exp_neg x⟩
  have hpos : 0 < 1 - x := sub_pos.2 (hx.trans_lt (by norm_num))
  -- `1/(1−x) ≤ 1 + y ≤ exp y` for `y = x + 2x²`
  rw [← neg_add', Real.exp_neg, inv_le_comm₀ (Real.exp_pos _) hpos]
  refine le_trans ((inv_le_iff_one_le_mul₀ hpos).2 ?_) (Real.add_one_le_exp _)
  rw [show (x + 2 * x ^ 2 + 1) * (1 - x) = 1 + x ^ 2 * (1 - 2 * x) by ring]
  exact le_add_of_nonneg_right (mul_nonneg (sq_nonneg x) (by linarith))

/-- **explicit Euler vs the exact attenuation law**: on a resolved grid the Euler factor lies between
`exp(−αL − 2α² Σ Δz²) · Π lumped` and `exp(−αL) · Π lumped`: in dB the numerical method over-estimates the loss budget by
at most `2 · (10/ln 10) · α² · Σ Δz²` (this is the tolerance the monitor uses for the low-power limit) -/
theorem eulerFactor_bounds (a : ℝ) : ∀ (grid : List (ℝ × ℝ)), GridOk a grid →
    Real.exp (-(a * gridSpan grid) - 2 * a ^ 2 * gridSq grid) * gridLoss grid ≤ eulerFactor a grid ∧
    eulerFactor a grid ≤ Real.exp (-(a * gridSpan grid)) * gridLoss grid
  | [], _ | [_], _ => by simp [gridSpan, gridSq, gridLoss, eulerFactor]
  | g0 :: g1 :: rest, ⟨_, h1, hl, hrest⟩ => by
    obtain ⟨lo, hi⟩ := eulerFactor_bounds a (g1 :: rest) hrest
    have hG := gridLoss_pos a (g1 :: rest) hrest
    obtain ⟨b1, b2⟩ := one_sub_exp_bounds (a * (g1.1 - g0.1)) h1
    have hE := fun x => (Real.exp_pos x).le
    rw [gridSpan, gridSq, gridLoss, eulerFactor]
    constructor
    · -- the exponent of the longer grid is the step's plus the rest's
      rw [show -(a * ((g1.1 - g0.1) + gridSpan (g1 :: rest))) - 2 * a ^ 2 * ((g1.1 - g0.1) ^ 2 + gridSq (g1 :: rest))
          = (-(a * (g1.1 - g0.1)) - 2 * (a * (g1.1 - g0.1)) ^ 2)
            + (-(a * gridSpan (g1 :: rest)) - 2 * a ^ 2 * gridSq (g1 :: rest)) by ring,
        Real.exp_add, mul_mul_mul_comm]
      exact mul_le_mul (mul_le_mul_of_nonneg_right b1 hl.le) lo (mul_nonneg (hE _) hG.le)
        (mul_nonneg ((hE _).trans b1) hl.le)
    · rw [mul_add, neg_add, Real.exp_add, mul_mul_mul_comm]
      exact mul_le_mul (mul_le_mul_of_nonneg_right b2 hl.le) hi
        (le_trans (mul_nonneg (hE _) hG.le) lo) (mul_nonneg (hE _) hl.le)

/-- when the last grid point carries no loss, the Euler product of lumped factors is the product of all of them -/
theorem gridLoss_eq_prod : ∀ (grid : List (ℝ × ℝ)), lastD 1 (grid.map (·.2)) = 1 →
    gridLoss grid = Gnpy.Fiber.prodL (grid.map (·.2))
  | [], _ => by simp [gridLoss, Gnpy.Fiber.prodL]
  | [g0], h => by simpa [gridLoss, Gnpy.Fiber.prodL, lastD] using h.symm
  | g0 :: g1 :: rest, h => by
    rw [gridLoss, gridLoss_eq_prod (g1 :: rest) (by simpa [lastD_eq] using h)]; rfl

/-- **numerical method, zero Raman efficiency, on the fibre's own grid**: the Euler factor of every frequency lies
within `exp(−2α² Σ Δz²)` of `exp(−αL) · Π lumped` – the loss budget with every lumped loss once -/
theorem euler_budget (a : ℝ) (lumped : List (ℝ × ℝ)) (z : List ℝ)
    (hok : GridOk a (Gnpy.Fiber.createLumped lumped z))
    (hlast : lastD 1 ((Gnpy.Fiber.createLumped lumped z).map (·.2)) = 1) :
    Real.exp (-(a * gridSpan (Gnpy.Fiber.createLumped lumped z)) - 2 * a ^ 2 * gridSq (Gnpy.Fiber.createLumped lumped z))
        * Gnpy.Fiber.prodL (lumped.map (·.2)) ≤ eulerFactor a (Gnpy.Fiber.createLumped lumped z) ∧
      eulerFactor a (Gnpy.Fiber.createLumped lumped z)
        ≤ Real.exp (-(a * gridSpan (Gnpy.Fiber.createLumped lumped z))) * Gnpy.Fiber.prodL (lumped.map (·.2)) := by
  have h := eulerFactor_bounds a _ hok
  rwa [gridLoss_eq_prod _ hlast, createLumped_prod] at h

/-! ### method `perturbative` -/

/-- **perturbative method, zero Raman efficiency**: for every implemented order the exponent on an interval is
exactly `−α z`: the plain attenuation law -/
theorem perturbative_zero_cr (order : Nat) (ho : order ≤ 4) (alpha : List ℝ) (cr : List (List ℝ)) (p0 zs : List ℝ)
    (hz : MZero cr) (hl : cr.length = alpha.length) (hzs : zs ≠ []) :
    expoInterval order alpha cr p0 zs = expo0 alpha zs := by
  have hX := rect_expzM alpha zs
  have hcrp := mzero_crpM cr p0 hz
  -- one more order: the Raman term built from ANY integrand of the grid's shape vanishes, and has that shape again
  have step : ∀ m, Rect zs.length m →
      madd (expo0 alpha zs) (crTimes zs.length (crpM cr p0) m) = expo0 alpha zs ∧
      Rect zs.length (crTimes zs.length (crpM cr p0) m) := fun m hm =>
    ⟨madd_expo0_crTimes hcrp (by simp [crpM, hl]) hm, (zeroRect_crTimes hcrp hm).rect⟩
  obtain ⟨e1, G1⟩ := step _ (rect_effLenM alpha zs)
  obtain ⟨e2, G2⟩ := step _ (rect_trapCum_map zs hzs _ (fun x => vmul x.1 x.2) (forall_mem_zip hX G1)
    fun x h => by simp [h.1, h.2])
  obtain ⟨e3, G3⟩ := step _ (rect_trapCum_map zs hzs _
    (fun x => vmul x.1 (vadd x.2.2 (vscale (((1:Nat):ℝ) / ((2:Nat):ℝ)) (vmul x.2.1 x.2.1))))
    (forall_mem_zip hX (forall_mem_zip G1 G2)) fun x h => by simp [h.1, h.2.1, h.2.2])
  obtain ⟨e4, -⟩ := step _ (rect_trapCum_map zs hzs _
    (fun x => vmul x.1 (vadd (vadd x.2.2.2 (vmul x.2.1 x.2.2.1))
      (vscale (((1:Nat):ℝ) / ((6:Nat):ℝ)) (vmul x.2.1 (vmul x.2.1 x.2.1)))))
    (forall_mem_zip hX (forall_mem_zip G1 (forall_mem_zip G2 G3))) fun x h => by simp [h.1, h.2.1, h.2.2.1, h.2.2.2])
  -- whichever order is asked for, `expoInterval` returns one of these sums
  simp only [expoInterval, gamma1, e1, e2, e3, e4, ite_self]

/-- the perturbative loop at zero Raman efficiency multiplies every frequency by `pertFactor` -/
theorem perturbGo_zero_cr (order : Nat) (ho : order ≤ 4) (alpha : List ℝ) (cr : List (List ℝ)) (hz : MZero cr)
    (hl : cr.length = alpha.length) :
    ∀ (fuel : Nat) (pin : List ℝ) (ll : ℝ) (grid : List (ℝ × ℝ)) (acc : List (List ℝ)), pin.length = alpha.length →
      (perturbGo order alpha cr fuel pin ll grid acc).2 = scaleBy (fun a => pertFactor a fuel ll grid) pin alpha
  | 0, pin, _, _, _, h | _ + 1, pin, _, [], _, h | _ + 1, pin, _, [_], _, h => by
    simp [perturbGo, pertFactor, scaleBy_one h]
  | fuel + 1, pin, ll, g0 :: g1 :: rest', acc, h => by
    have hzs : (takeInterval (g0 :: g1 :: rest')).1.map (fun g => g.1 - g0.1) ≠ [] := by simp [takeInterval]
    simp only [perturbGo, pertFactor]
    rw [powerInterval_lastColumn ll (perturbative_zero_cr order ho alpha cr _ _ hz hl hzs) hzs h,
      perturbGo_zero_cr order ho alpha cr hz hl fuel _ _ _ _ (by simp [h]), scaleBy_scaleBy]
    congr 1; funext a
    -- the two sides differ in `((1:ℕ):ℝ)` against `1` under the `match` on the remaining grid
    cases (takeInterval (g0 :: g1 :: rest')).2 <;> simp

/-- **perturbative method, zero Raman efficiency, whole fibre with lumped losses**: at the fibre end every frequency
carries `p · exp(−α (z_last − z_first)) · Π lumped factors strictly inside the fibre` – the plain attenuation law with
each lumped loss exactly once, for every implemented order -/
theorem perturbative_zero_cr_grid (order : Nat) (ho : order ≤ 4) (alpha : List ℝ) (cr : List (List ℝ)) (hz : MZero cr)
    (hl : cr.length = alpha.length) (pin : List ℝ) (hp : pin.length = alpha.length) (g0 : ℝ × ℝ)
    (rest : List (ℝ × ℝ)) (hne : rest ≠ []) :
    perturbativeEnd order alpha cr pin (g0 :: rest)
      = scaleBy (fun a => Real.exp (-(a * (lastD g0.1 (rest.map (·.1)) - g0.1)))
          * Gnpy.Fiber.prodL (rest.dropLast.map (·.2))) pin alpha := by
  simp only [perturbativeEnd, Nat.cast_one]
  rw [perturbGo_zero_cr order ho alpha cr hz hl _ pin 1 (g0 :: rest) _ hp]
  congr 1; funext a
  rw [pertFactor_eq a _ 1 g0 rest (by simp) hne, one_mul]

/-- **low-power limit of the perturbative method (order 1)**: with all launch powers scaled by `t` the exponent is
`−α z + t · γ₁`; at `t = 0` it is the plain attenuation exponent -/
theorem perturbative_low_power (alpha : List ℝ) (cr : List (List ℝ)) (p0 zs : List ℝ) (t : ℝ) :
    expoInterval 1 alpha cr (vscale t p0) zs
      = madd (expo0 alpha zs) ((gamma1 alpha cr p0 zs).map (vscale t)) ∧
    (cr.length = alpha.length →
      expoInterval 1 alpha cr (vscale 0 p0) zs = expo0 alpha zs) := by
  refine ⟨by simp [expoInterval, gamma1_scale], fun hl => ?_⟩
  simp only [expoInterval, one_ne_zero, if_false, if_true, gamma1]
  -- the efficiencies `cr · (0 · p₀)` vanish
  exact madd_expo0_crTimes
    (List.forall_mem_map.2 fun row _ => vzero_vmul_right row _ (vzero_vscale_zero p0)) (by simp [crpM, hl])
    (rect_effLenM alpha zs)

/-- **size of the first-order term**: along the whole interval the first-order Raman exponent of a channel is bounded by
`Σ_b |cr_ab| · p_b / α_b` – proportional to the launch powers: this is the quantitative low-power limit of the order-1
perturbative solution (and the `X` of the monitor's tolerance) -/
theorem gamma1_bound (alpha : List ℝ) (row p0 zs : List ℝ) (ha : ∀ a ∈ alpha, 0 < a) (hz : ∀ z ∈ zs, 0 ≤ z) :
    ∀ x ∈ rowTimes zs.length (vmul row p0) (effLenM alpha zs),
      |x| ≤ rowBound (vmul row p0) (alpha.map (fun a => 1 / a)) :=
  rowTimes_abs_le (effLenM_bounds alpha zs ha hz)

/-- **sign of the first-order term** (partial form of "counter-propagating pumps only add gain"): when every wave has
a non-negative Raman efficiency onto the channel of row `row` (e.g. pumps above the signal frequency: `cr ≥ 0`),
positive loss coefficients, non-negative launch powers and positions, the first-order Raman term of that channel is
non-negative along the whole interval – relative to plain attenuation the channel only gains.
FULL STATEMENT (not a theorem here): with the counter-propagating pumps switched on, the power of every channel at the
fibre end, as computed by `calculate_stimulated_raman_scattering` (iterative algorithm, any method/order/resolution), is
at least the power computed with the pumps off.  Checked by the monitor only. -/
theorem counterprop_gain_only_partial (alpha : List ℝ) (row p0 zs : List ℝ) (ha : ∀ a ∈ alpha, 0 < a)
    (hz : ∀ z ∈ zs, 0 ≤ z) (hrow : ∀ c ∈ row, 0 ≤ c) (hp : ∀ x ∈ p0, 0 ≤ x) :
    ∀ x ∈ rowTimes zs.length (vmul row p0) (effLenM alpha zs), 0 ≤ x :=
  rowTimes_nonneg (vmul_nonneg row p0 hrow hp) (effLenM_nonneg alpha zs ha hz)

/-- with non-negative Raman efficiencies throughout, positive loss coefficients and non-negative launch powers and positions,
every entry of the first-order Raman matrix is non-negative -/
theorem gamma1_nonneg (alpha : List ℝ) (cr : List (List ℝ)) (p0 zs : List ℝ) (ha : ∀ a ∈ alpha, 0 < a)
    (hz : ∀ z ∈ zs, 0 ≤ z) (hcr : ∀ row ∈ cr, ∀ c ∈ row, 0 ≤ c) (hp : ∀ x ∈ p0, 0 ≤ x) :
    ∀ r ∈ gamma1 alpha cr p0 zs, ∀ x ∈ r, 0 ≤ x := by
  simp only [gamma1, crTimes, crpM, List.map_map, List.forall_mem_map]
  exact fun row hrow => counterprop_gain_only_partial alpha row p0 zs ha hz (hcr row hrow) hp

/-! ### spontaneous Raman scattering (ASE of the pumps) -/

theorem trapz_nonneg (ys zs : List ℝ) (hy : ∀ y ∈ ys, 0 ≤ y) (hz : zs.Pairwise (· ≤ ·)) : 0 ≤ trapz ys zs := by
  match ys, zs with
  | [], _ | [_], _ | _ :: _ :: _, [] | _ :: _ :: _, [_] => simp [trapz]
  | y0 :: y1 :: ys, z0 :: z1 :: zs =>
    rw [List.pairwise_cons] at hz
    have h01 : 0 ≤ z1 - z0 := sub_nonneg.2 (hz.1 z1 (List.mem_cons_self ..))
    have hy0 := hy y0 (List.mem_cons_self ..)
    have hy1 := hy y1 (List.mem_cons_of_mem _ (List.mem_cons_self ..))
    rw [trapz]
    exact add_nonneg (mul_nonneg h01 (div_nonneg (add_nonneg hy1 hy0) (by simp)))
      (trapz_nonneg (y1 :: ys) (z1 :: zs) (fun y h => hy y (List.mem_cons_of_mem _ h)) hz.2)

/-- every pump's contribution to the ASE of a channel is non-negative: a pump above the channel (`df > 0`) has a
non-negative efficiency onto it and `1 + η > 0`; the mask `[df > 0]` removes the others -/
theorem sprs_term_nonneg (temp baud f : ℝ) (loss z : List ℝ) (p : PumpAt ℝ) (ht : 0 < temp) (hb : 0 ≤ baud)
    (hf : 0 ≤ f) (hcr : 0 < p.f - f → 0 ≤ p.cr) (hprof : ∀ x ∈ p.profile, 0 ≤ x) (hloss : ∀ x ∈ loss, 0 < x)
    (hz : z.Pairwise (· ≤ ·)) : 0 ≤ sprsTerm temp baud f loss z p := by
  rw [sprsTerm_eq]
  split_ifs with hd
  · -- a product of non-negative factors
    have hh := planckH_pos
    have he := etaBE_pos (p.f - f) temp hd ht
    have hc := hcr hd
    have hi := trapz_nonneg _ _ (vdiv_nonneg p.profile loss hprof hloss) hz
    positivity
  · exact le_rfl

/-- **the spontaneous Raman ASE of every channel is non-negative** -/
theorem sprs_ase_nonneg (temp baud f : ℝ) (loss z : List ℝ) (pumps : List (PumpAt ℝ)) (ht : 0 < temp) (hb : 0 ≤ baud)
    (hf : 0 ≤ f) (hcr : ∀ p ∈ pumps, 0 < p.f - f → 0 ≤ p.cr) (hprof : ∀ p ∈ pumps, ∀ x ∈ p.profile, 0 ≤ x)
    (hloss : ∀ x ∈ loss, 0 < x) (hz : z.Pairwise (· ≤ ·)) : 0 ≤ sprsChannel temp baud f loss z pumps := by
  rw [sprsChannel, sumL_eq_sum]
  exact List.sum_nonneg (List.forall_mem_map.2 fun p hp =>
    sprs_term_nonneg temp baud f loss z p ht hb hf (hcr p hp) (hprof p hp) hloss hz)

/-- **the order of the pump list is irrelevant** – provided every pump keeps its own frequency, power profile and
efficiency column (one `PumpAt` record): exactly what finding F23 violated -/
theorem sprs_pump_order_irrelevant (temp baud f : ℝ) (loss z : List ℝ) (pumps pumps' : List (PumpAt ℝ))
    (hp : pumps.Perm pumps') : sprsChannel temp baud f loss z pumps = sprsChannel temp baud f loss z pumps' :=
  sumL_map_perm hp _

/-- BEFORE FIX 9f87f0b2 (finding F23): the i-th pump of `fiber.raman_pumps` (its frequency, hence `df` and the mask) was
paired with the i-th pump row of the SRS result (profile and efficiency column), which lists co-propagating pumps first.
With a counter-propagating pump ABOVE the channel listed before a co-propagating pump BELOW it, the frequency of the
first met the (negative) efficiency and the profile of the second: the "ASE" came out negative.  Witness: -/
theorem sprs_misindexed_can_be_negative_old :
    sprsTerm (1:ℝ) 1 1 [1, 1] [0, 1] { f := 2, cr := -1, profile := [1, 1] } < 0 := by
  have hd : (0:ℝ) < 2 - 1 := by norm_num
  have he := add_pos one_pos (etaBE_pos (2 - 1 : ℝ) 1 hd one_pos)
  rw [sprsTerm_eq, if_pos hd]
  -- positive prefactor · negative efficiency · positive integral
  exact mul_neg_of_neg_of_pos (mul_neg_of_pos_of_neg
    (mul_pos (mul_pos (mul_pos (mul_pos two_pos planckH_pos) one_pos) one_pos) he) (by norm_num))
    (by norm_num [trapz, vdiv])

/-! ### non-vacuity -/
example : MZero [[(0:ℝ), 0], [0, 0]] := by simp [MZero, VZero]
example : GridOk (46 / 1000000 : ℝ) [(0, 1), (1000, 1 / 2), (2000, 1)] := by
  norm_num [GridOk]
example : ∀ a ∈ [(46 / 1000000 : ℝ)], 0 < a := by simp

end Gnpy.Raman
