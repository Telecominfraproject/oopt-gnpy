import GnpyModel
import GnpyProofs.Lemmas.Db
import GnpyProofs.Lemmas.Spectrum
/- Property theorems for C01 — per-channel power always splits exactly into signal + ASE + NLI.
   Model: GnpyModel/Spectrum.lean; vocabulary (`Inv`, `OpOk`, `RunOk`, `PathOk`): Lemmas/Spectrum.lean.
   All statements over ℝ. -/
namespace Gnpy.Spectrum
open Chan

/-! ### the invariant under every operation, run and path -/

theorem attLin_inv (c : Chan ℝ) (g : ℝ) (h : Inv c) (hg : 0 < g) : Inv (c.attLin g) :=
  ⟨mul_pos h.p_pos hg, h.2⟩ -- `attLin` changes `p` only: the shares of `c.attLin g` are those of `c` by definition

theorem gainLin_inv (c : Chan ℝ) (g : ℝ) (h : Inv c) (hg : 0 < g) : Inv (c.gainLin g) := attLin_inv c g h hg

/-- any attenuation given in dB (also a negative one) keeps the invariant -/
theorem attDb_inv (c : Chan ℝ) (d : ℝ) (h : Inv c) : Inv (c.attDb d) :=
  attDb_eq c d ▸ attLin_inv c _ h (one_div_pos.2 (db2lin_pos d))

theorem gainDb_inv (c : Chan ℝ) (d : ℝ) (h : Inv c) : Inv (c.gainDb d) :=
  gainLin_inv c _ h (db2lin_pos d)

theorem addAse_inv (c : Chan ℝ) (e : ℝ) (h : Inv c) (he : 0 ≤ e) : Inv (c.addAse e) :=
  have hp := h.p_pos
  (addAse_diluted c e hp he).inv h (by positivity) (add_pos_of_pos_of_nonneg hp he)

/-- NLI is a transfer from the channel power to the NLI share: fine as long as it does not exceed the
channel power -/
theorem addNli_inv (c : Chan ℝ) (x : ℝ) (h : Inv c) (hx0 : 0 ≤ x) (hx : x ≤ c.p) : Inv (c.addNli x) :=
  (addNli_diluted c x h.p_pos hx0).inv h (sub_nonneg.2 ((div_le_one h.p_pos).2 hx)) h.p_pos

/-- with the NLI strictly below the channel power some signal is left -/
theorem addNli_live (c : Chan ℝ) (x : ℝ) (h : Live c) (hx0 : 0 ≤ x) (hx : x < c.p) : Live (c.addNli x) :=
  (addNli_diluted c x h.1.p_pos hx0).live h (one_sub_div_pos h.1.p_pos hx) h.1.p_pos

theorem addAse_live (c : Chan ℝ) (e : ℝ) (h : Live c) (he : 0 ≤ e) : Live (c.addAse e) :=
  have hp := h.1.p_pos
  (addAse_diluted c e hp he).live h (by positivity) (add_pos_of_pos_of_nonneg hp he)

theorem attDb_live (c : Chan ℝ) (d : ℝ) (h : Live c) : Live (c.attDb d) := ⟨attDb_inv c d h.1, h.2⟩

theorem step_inv (c : Chan ℝ) (o : Op ℝ) (h : Inv c) (ho : OpOk c o) : Inv (step c o) := by
  cases o with
  | attLin g => exact attLin_inv c g h ho
  | attDb d => exact attDb_inv c d h
  | gainLin g => exact gainLin_inv c g h ho
  | gainDb d => exact gainDb_inv c d h
  | addAse e => exact addAse_inv c e h ho
  | addNli x => exact addNli_inv c x h ho.1 (le_of_lt ho.2)

theorem step_live (c : Chan ℝ) (o : Op ℝ) (h : Live c) (ho : OpOk c o) : Live (step c o) := by
  cases o with
  | addAse e => exact addAse_live c e h ho
  | addNli x => exact addNli_live c x h ho.1 ho.2
  | _ => exact ⟨step_inv c _ h.1 ho, h.2⟩ -- attenuations and gains leave `s` as it is, by definition

/-- **C01, invariant along every operation sequence**: whatever sequence of attenuations, gains,
ASE and NLI additions an element (or a whole path) applies, the shares stay non-negative and sum to 1. -/
theorem run_inv (ops : List (Op ℝ)) (c : Chan ℝ) (h : Inv c) (hok : RunOk ops c) : Inv (run ops c) :=
  run_induction step_inv h hok

theorem run_live (ops : List (Op ℝ)) (c : Chan ℝ) (h : Live c) (hok : RunOk ops c) : Live (run ops c) :=
  run_induction step_live h hok

theorem shares_le_one (c : Chan ℝ) (h : Inv c) :
    (0 ≤ c.s ∧ c.s ≤ 1) ∧ (0 ≤ c.a ∧ c.a ≤ 1) ∧ (0 ≤ c.n ∧ c.n ≤ 1) := by
  obtain ⟨_, hs, ha, hn, hsum⟩ := h
  refine ⟨⟨hs, ?_⟩, ⟨ha, ?_⟩, ⟨hn, ?_⟩⟩ <;> linarith

/-- **signal power + ASE power + NLI power = channel power** -/
theorem power_split (c : Chan ℝ) (h : Inv c) : c.signal + c.ase + c.nli = c.p := by
  rw [signal, ase, nli, ← add_mul, ← add_mul, h.shares_sum, one_mul]

/-- the split holds, and the shares are in [0,1], after every guarded run (a prefix of a guarded run is guarded:
`runOk_append`) -/
theorem run_power_split (ops : List (Op ℝ)) (c : Chan ℝ) (h : Inv c) (hok : RunOk ops c) :
    (run ops c).signal + (run ops c).ase + (run ops c).nli = (run ops c).p ∧
    (0 ≤ (run ops c).s ∧ (run ops c).s ≤ 1) ∧ (0 ≤ (run ops c).a ∧ (run ops c).a ≤ 1) ∧
    (0 ≤ (run ops c).n ∧ (run ops c).n ≤ 1) :=
  ⟨power_split _ (run_inv ops c h hok), shares_le_one _ (run_inv ops c h hok)⟩

/-- the invariant holds after every guarded path through any list of elements (a prefix of a guarded path is guarded:
`pathOk_append`) -/
theorem path_inv (es : List (Elem ℝ)) (c : Chan ℝ) (h : Inv c) (hok : PathOk es c) : Inv (path es c) := by
  rw [path_eq_run]; exact run_inv _ c h ((pathOk_iff_runOk es c).1 hok)

theorem path_live (es : List (Elem ℝ)) (c : Chan ℝ) (h : Live c) (hok : PathOk es c) : Live (path es c) := by
  rw [path_eq_run]; exact run_live _ c h ((pathOk_iff_runOk es c).1 hok)

theorem path_power_split (es : List (Elem ℝ)) (c : Chan ℝ) (h : Inv c) (hok : PathOk es c) :
    (path es c).signal + (path es c).ase + (path es c).nli = (path es c).p :=
  power_split _ (path_inv es c h hok)

/-- a spectrum through one element: every channel keeps the invariant -/
theorem applyElems_inv (es : List (Elem ℝ)) (sp : List (Chan ℝ))
    (h : List.Forall₂ (fun e c => Inv c ∧ RunOk e.ops c) es sp) : ∀ c ∈ applyElems es sp, Inv c := by
  induction h with
  | nil => exact fun _ hc => nomatch hc
  | cons hd _ ih => exact List.forall_mem_cons.2 ⟨run_inv _ _ hd.1 hd.2, ih⟩

/-! ### power bookkeeping: nothing is created or lost -/

/-- adding ASE: signal and NLI powers are untouched, ASE power and total power grow by exactly `e` -/
theorem addAse_powers (c : Chan ℝ) (e : ℝ) (hp : 0 < c.p) (he : 0 ≤ e) :
    (c.addAse e).signal = c.signal ∧ (c.addAse e).nli = c.nli ∧
    (c.addAse e).ase = c.ase + e ∧ (c.addAse e).p = c.p + e := by
  have hp' : c.p + e ≠ 0 := by positivity
  have key : ∀ r : ℝ, r * (c.p / (c.p + e)) * (c.p + e) = r * c.p := fun r => by
    rw [mul_assoc, div_mul_cancel₀ _ hp']
  exact ⟨key c.s, key c.n, div_mul_cancel₀ _ hp', rfl⟩

/-- adding NLI: total power is untouched; the power `x` is taken from the three components in
proportion to their shares and booked as NLI: signal loses `x·s`, ASE loses `x·a`, NLI gains `x·(1−n)` -/
theorem addNli_powers (c : Chan ℝ) (x : ℝ) (hp : 0 < c.p) :
    (c.addNli x).p = c.p ∧ (c.addNli x).signal = c.signal - x * c.s ∧
    (c.addNli x).ase = c.ase - x * c.a ∧ (c.addNli x).nli = c.nli + x * (1 - c.n) := by
  have hx : x / c.p * c.p = x := div_mul_cancel₀ x hp.ne'
  simp only [addNli, signal, ase, nli, Nat.cast_one]
  exact ⟨trivial, by linear_combination (-c.s) * hx, by linear_combination (-c.a) * hx,
    by linear_combination (1 - c.n) * hx⟩

/-- hence under the invariant the NLI power grows by exactly what signal and ASE lose -/
theorem addNli_transfer (c : Chan ℝ) (x : ℝ) (h : Inv c) :
    (c.addNli x).nli - c.nli = (c.signal - (c.addNli x).signal) + (c.ase - (c.addNli x).ase) := by
  obtain ⟨_, h1, h2, h3⟩ := addNli_powers c x h.p_pos
  rw [h1, h2, h3]; linear_combination (-x) * h.shares_sum

/-- attenuation / gain scale the three powers by the same factor -/
theorem attLin_powers (c : Chan ℝ) (g : ℝ) :
    (c.attLin g).signal = g * c.signal ∧ (c.attLin g).ase = g * c.ase ∧ (c.attLin g).nli = g * c.nli ∧
    (c.attLin g).p = g * c.p := by
  simp only [attLin, signal, ase, nli]
  refine ⟨?_, ?_, ?_, ?_⟩ <;> ring

theorem gainLin_powers (c : Chan ℝ) (g : ℝ) :
    (c.gainLin g).signal = g * c.signal ∧ (c.gainLin g).ase = g * c.ase ∧ (c.gainLin g).nli = g * c.nli ∧
    (c.gainLin g).p = g * c.p := attLin_powers c g

/-- an attenuation of `d` dB lowers the channel power by exactly `d` dB -/
theorem attDb_dbm (c : Chan ℝ) (d : ℝ) (hp : 0 < c.p) : watt2dbm (c.attDb d).p = watt2dbm c.p - d := by
  rw [attDb_eq]; exact watt2dbm_div_db2lin d hp

theorem gainDb_dbm (c : Chan ℝ) (d : ℝ) (hp : 0 < c.p) : watt2dbm (c.gainDb d).p = watt2dbm c.p + d :=
  watt2dbm_mul_db2lin d hp

/-! ### reported figures (Transceiver): the harmonic identity, `snr_sum`, `update_snr` -/

/-- `1/GSNR = 1/OSNR_ASE + 1/SNR_NLI` in the form that needs no positivity (valid also while a noise share is still
zero) -/
theorem nsr_split (c : Chan ℝ) : c.nsr = c.nsrAse + c.nsrNli := add_div _ _ _

theorem nsr_eq_inv_gsnr (c : Chan ℝ) : c.nsr = 1 / c.gsnr ∧ c.nsrAse = 1 / c.snrLin ∧ c.nsrNli = 1 / c.snrNli := by
  simp only [nsr, nsrAse, nsrNli, gsnr, snrLin, snrNli, one_div, inv_div, and_self]

/-- **1/GSNR = 1/OSNR_ASE + 1/SNR_NLI** (linear units).  The hypotheses say where the three figures are finite in the
code; the proof needs none of them (over ℝ, `x / 0 = 0` makes the identity total: `nsr_split`). -/
theorem gsnr_harmonic (c : Chan ℝ) (hs : 0 < c.s) (ha : 0 < c.a) (hn : 0 < c.n) :
    1 / c.gsnr = 1 / c.snrLin + 1 / c.snrNli := by
  obtain ⟨h1, h2, h3⟩ := nsr_eq_inv_gsnr c
  rw [← h1, ← h2, ← h3, nsr_split]

/-- before any ASE is added GSNR is the SNR_NLI -/
theorem gsnr_no_ase (c : Chan ℝ) (ha : c.a = 0) : c.gsnr = c.snrNli := by
  simp only [gsnr, snrNli, ha, zero_add]

/-- before any NLI is added GSNR is the OSNR_ASE -/
theorem gsnr_no_nli (c : Chan ℝ) (hn : c.n = 0) : c.gsnr = c.snrLin := by
  simp only [gsnr, snrLin, hn, add_zero]

/-- the dB figures recorded by `Transceiver._calc_snr` obey `1/GSNR = 1/OSNR_ASE + 1/SNR_NLI` -/
theorem gsnr_harmonic_db (c : Chan ℝ) (hs : 0 < c.s) (ha : 0 < c.a) (hn : 0 < c.n) :
    db2lin (-(c.gsnrDb)) = db2lin (-(c.snrLinDb)) + db2lin (-(c.snrNliDb)) := by
  have h1 : 0 < c.gsnr := div_pos hs (add_pos ha hn)
  have h2 : 0 < c.snrLin := div_pos hs ha
  have h3 : 0 < c.snrNli := div_pos hs hn
  rw [gsnrDb, snrLinDb, snrNliDb, db2lin_neg_lin2db h1, db2lin_neg_lin2db h2, db2lin_neg_lin2db h3,
    ← one_div, ← one_div, ← one_div]
  exact gsnr_harmonic c hs ha hn

/-- `snr_sum`: in linear units the inverse SNR grows by the inverse added SNR scaled to the
channel bandwidth, `1/snr' = 1/snr + (bw/12.5e9)/snr_added` -/
theorem snrSum_lin (snr bw added : ℝ) (hbw : 0 < bw) :
    db2lin (-(snrSum snr bw added)) = db2lin (-snr) + db2lin (-added) * (bw / 12500000000) := by
  simp only [snrSum, refBw, Nat.cast_ofNat]
  rw [neg_neg, db2lin_lin2db (add_pos (db2lin_pos _) (db2lin_pos _)), neg_sub, sub_eq_add_neg, db2lin_add,
    db2lin_lin2db (div_pos hbw (by norm_num)), mul_comm]

/-- **the figures reported after `update_snr` still obey 1/GSNR = 1/OSNR_ASE + 1/SNR_NLI**: the same
lumped penalty is added to 1/OSNR and to 1/GSNR, SNR_NLI is left as recorded -/
theorem updateSnr_harmonic (c : Chan ℝ) (baud : ℝ) (args : List ℝ) (hb : 0 < baud)
    (hs : 0 < c.s) (ha : 0 < c.a) (hn : 0 < c.n) :
    db2lin (-(updateSnr c baud args).2.2) =
      db2lin (-(updateSnr c baud args).1) + db2lin (-(updateSnr c baud args).2.1) := by
  simp only [updateSnr]
  rw [snrSum_lin _ _ _ hb, snrSum_lin _ _ _ hb, gsnr_harmonic_db c hs ha hn]
  ring

/-- `update_snr`: the lumped penalties add up in inverse linear units, `1/snr_added = Σ 1/sᵢ` -/
theorem snrAdded_lin (args : List ℝ) (hne : args ≠ []) :
    db2lin (-(snrAdded args)) = (args.map (fun s => db2lin (-s))).sum := by
  have hpos : 0 < (args.map (fun s => db2lin (-s))).sum :=
    List.sum_pos _ (fun x hx => by obtain ⟨s, _, rfl⟩ := List.mem_map.1 hx; exact db2lin_pos _)
      (fun h => hne (List.map_eq_nil_iff.1 h))
  rw [snrAdded, neg_neg, snrAddedLin_eq, db2lin_lin2db hpos]

/-- the reported OSNR and GSNR after `update_snr`, in inverse linear units:
`1/x' = 1/x + (baud/12.5e9) · Σ 1/sᵢ` for both figures -/
theorem updateSnr_lin (c : Chan ℝ) (baud : ℝ) (args : List ℝ) (hb : 0 < baud) (hne : args ≠ []) :
    db2lin (-(updateSnr c baud args).1) =
      db2lin (-(c.snrLinDb)) + (args.map (fun s => db2lin (-s))).sum * (baud / 12500000000) ∧
    db2lin (-(updateSnr c baud args).2.2) =
      db2lin (-(c.gsnrDb)) + (args.map (fun s => db2lin (-s))).sum * (baud / 12500000000) ∧
    (updateSnr c baud args).2.1 = c.snrNliDb := by
  simp only [updateSnr, and_true]
  rw [snrSum_lin _ _ _ hb, snrSum_lin _ _ _ hb, snrAdded_lin args hne]
  exact ⟨rfl, rfl⟩

/-- a lumped penalty can only lower a figure (dB) -/
theorem snrSum_le {snr bw added : ℝ} (hbw : 0 < bw) : snrSum snr bw added ≤ snr := by
  rw [← neg_le_neg_iff, ← db2lin_le_iff, snrSum_lin _ _ _ hbw]
  exact le_add_of_nonneg_right (mul_nonneg (db2lin_pos _).le (div_pos hbw (by norm_num)).le)

/-- `update_snr` can only lower the reported OSNR and GSNR (dB) -/
theorem updateSnr_le (c : Chan ℝ) (baud : ℝ) (args : List ℝ) (hb : 0 < baud) :
    (updateSnr c baud args).1 ≤ c.snrLinDb ∧ (updateSnr c baud args).2.2 ≤ c.gsnrDb :=
  ⟨snrSum_le hb, snrSum_le hb⟩

/-! ### several `update_snr` calls on the same receiver (automatic mode selection) -/

theorem update_raw (t : TrxFig ℝ) (baud : ℝ) (args : List ℝ) :
    (t.update baud args).rawOsnr = t.rawOsnr ∧ (t.update baud args).rawNli = t.rawNli ∧
    (t.update baud args).rawSnr = t.rawSnr ∧ (t.update baud args).rawOsnr01 = t.rawOsnr01 ∧
    (t.update baud args).rawSnr01 = t.rawSnr01 ∧ (t.update baud args).nli = t.nli := ⟨rfl, rfl, rfl, rfl, rfl, rfl⟩

/-- **history-free**: a further `update_snr` call gives exactly what the same call gives on the freshly recorded
figures – penalties are never cumulated, whatever calls came before -/
theorem update_history_free (t : TrxFig ℝ) (baud : ℝ) (a1 a2 : List ℝ) :
    (t.update baud a1).update baud a2 = t.update baud a2 := rfl

theorem updates_snoc (t : TrxFig ℝ) (baud : ℝ) (calls : List (List ℝ)) (a : List ℝ) :
    t.updates baud (calls ++ [a]) = (t.updates baud calls).update baud a :=
  List.foldl_append

/-- no number of calls touches the raw figures (nor `rawNli`, which is not listed: same induction) -/
theorem updates_raw (t : TrxFig ℝ) (baud : ℝ) (calls : List (List ℝ)) :
    (t.updates baud calls).rawOsnr = t.rawOsnr ∧ (t.updates baud calls).rawSnr = t.rawSnr ∧
    (t.updates baud calls).rawOsnr01 = t.rawOsnr01 ∧ (t.updates baud calls).rawSnr01 = t.rawSnr01 ∧
    (t.updates baud calls).nli = t.nli := by
  induction calls generalizing t with
  | nil => exact ⟨rfl, rfl, rfl, rfl, rfl⟩
  | cons a r ih => exact ih (t.update baud a)

/-- only the last call counts: each call reads the raw figures alone (`update_history_free`) -/
theorem updates_snoc_eq_update (t : TrxFig ℝ) (baud : ℝ) (calls : List (List ℝ)) (a : List ℝ) :
    t.updates baud (calls ++ [a]) = t.update baud a := by
  induction calls generalizing t with
  | nil => rfl
  | cons b r ih => exact (ih (t.update baud b)).trans (update_history_free t baud b a)

/-- after any number of `update_snr` calls the reported figures are those of the LAST call applied to the raw ones -/
theorem updates_last (c : Chan ℝ) (baud : ℝ) (calls : List (List ℝ)) (a : List ℝ) :
    ((TrxFig.calc c baud).updates baud (calls ++ [a])).osnr = (updateSnr c baud a).1 ∧
    ((TrxFig.calc c baud).updates baud (calls ++ [a])).nli = (updateSnr c baud a).2.1 ∧
    ((TrxFig.calc c baud).updates baud (calls ++ [a])).snr = (updateSnr c baud a).2.2 := by
  rw [updates_snoc_eq_update]
  exact ⟨rfl, rfl, rfl⟩

/-- **1/GSNR = 1/OSNR_ASE + 1/SNR_NLI holds for the reported figures after every call of every call sequence** -/
theorem updates_harmonic (c : Chan ℝ) (baud : ℝ) (calls : List (List ℝ)) (hb : 0 < baud)
    (hs : 0 < c.s) (ha : 0 < c.a) (hn : 0 < c.n) :
    db2lin (-((TrxFig.calc c baud).updates baud calls).snr) =
      db2lin (-((TrxFig.calc c baud).updates baud calls).osnr) +
      db2lin (-((TrxFig.calc c baud).updates baud calls).nli) := by
  rcases List.eq_nil_or_concat' calls with rfl | ⟨init, a, rfl⟩
  · exact gsnr_harmonic_db c hs ha hn
  · rw [updates_snoc_eq_update]
    exact updateSnr_harmonic c baud a hb hs ha hn

/-- the 0.1 nm figures are recomputed with `bw = 12.5e9`, so the lumped penalty enters them unscaled:
`1/x' = 1/raw + 1/snr_added` for both -/
theorem update_01nm (t : TrxFig ℝ) (baud : ℝ) (args : List ℝ) :
    db2lin (-(t.update baud args).snr01) = db2lin (-t.rawSnr01) + db2lin (-(snrAdded args)) ∧
    db2lin (-(t.update baud args).osnr01) = db2lin (-t.rawOsnr01) + db2lin (-(snrAdded args)) := by
  -- the factor `bw / 12.5e9` of `snrSum_lin` is 1 here
  have h : ∀ x : ℝ, db2lin (-(snrSum x 12500000000 (snrAdded args))) = db2lin (-x) + db2lin (-(snrAdded args)) :=
    fun x => by rw [snrSum_lin x _ _ (by norm_num), div_self (by norm_num), mul_one]
  exact ⟨h _, h _⟩

/-! ### band split / merge on keyed channels -/

/-- a selection keeps every kept channel as it is (nothing else appears) -/
theorem demux_mem (keep : Int → Bool) (sp : List (Int × Chan ℝ)) (kc : Int × Chan ℝ) :
    kc ∈ demux keep sp ↔ kc ∈ sp ∧ keep kc.1 = true := by
  simp [demux]

theorem demux_sublist (keep : Int → Bool) (sp : List (Int × Chan ℝ)) : (demux keep sp).Sublist sp :=
  List.filter_sublist

/-- a merge returns exactly the channels it was given (as a multiset), each unchanged -/
theorem mux_spec (parts : List (List (Int × Chan ℝ))) (m : List (Int × Chan ℝ)) (h : mux parts = some m) :
    m.Perm parts.flatten := by
  induction parts generalizing m with
  | nil => nomatch h
  | cons x r ih =>
    cases r with
    | nil => cases h; simp
    | cons y r =>
      rw [mux_cons_cons] at h
      obtain ⟨m', hm, rfl⟩ := Option.map_eq_some_iff.1 h
      exact (sortK_perm _).trans ((ih m' hm).append_left x)

/-- every merge step `add2` (hence every `mux` of two or more parts) returns its channels sorted by frequency -/
theorem mux_sorted (x y : List (Int × Chan ℝ)) : (add2 x y).Pairwise (fun u v => u.1 ≤ v.1) :=
  sortK_sorted _

/-- split into a band and its complement, then merge: the same channels, none lost, none duplicated -/
theorem split_merge_perm (keep : Int → Bool) (sp : List (Int × Chan ℝ)) :
    (add2 (demux keep sp) (demux (fun f => !keep f) sp)).Perm sp :=
  (sortK_perm _).trans (List.filter_append_perm _ sp)

/-- total power is neither created nor lost by split + merge -/
theorem split_merge_power (keep : Int → Bool) (sp : List (Int × Chan ℝ)) :
    sumL ((add2 (demux keep sp) (demux (fun f => !keep f) sp)).map (fun kc => kc.2.p)) =
      sumL (sp.map (fun kc => kc.2.p)) :=
  sumL_map_perm (split_merge_perm keep sp) _

/-- merging any number of sub-spectra conserves the total power -/
theorem mux_power (parts : List (List (Int × Chan ℝ))) (m : List (Int × Chan ℝ)) (h : mux parts = some m) :
    sumL (m.map (fun kc => kc.2.p)) = sumL (parts.flatten.map (fun kc => kc.2.p)) :=
  sumL_map_perm (mux_spec parts m h) _

/-- a merge keeps the invariant channel-wise (a split does because it only selects: `demux_sublist`) -/
theorem demux_mux_inv (parts : List (List (Int × Chan ℝ))) (m : List (Int × Chan ℝ)) (h : mux parts = some m)
    (hinv : ∀ part ∈ parts, ∀ kc ∈ part, Inv kc.2) : ∀ kc ∈ m, Inv kc.2 := by
  intro kc hkc
  obtain ⟨part, hp, hk⟩ := List.mem_flatten.1 ((mux_spec parts m h).subset hkc)
  exact hinv part hp kc hk

/-- every channel that leaves a multiband amplifier is one input channel, in the band of one of its
amplifiers, taken through that amplifier -/
theorem multiband_mem (amps : List ((Int → Bool) × (Int → Elem ℝ))) (sp out : List (Int × Chan ℝ))
    (h : multiband amps sp = some out) (kc : Int × Chan ℝ) (hkc : kc ∈ out) :
    ∃ bf ∈ amps, ∃ c, (kc.1, c) ∈ sp ∧ bf.1 kc.1 = true ∧ kc.2 = (bf.2 kc.1).apply c := by
  obtain ⟨part, hp, hk⟩ := List.mem_flatten.1 ((mux_spec _ out h).subset hkc)
  obtain ⟨bf, hbf, hpart⟩ := List.mem_filterMap.1 hp
  obtain ⟨_, hpart⟩ := Option.ite_none_left_eq_some.1 hpart
  obtain rfl := Option.some.inj hpart
  obtain ⟨kc0, hk0, rfl⟩ := List.mem_map.1 hk
  obtain ⟨h1, h2⟩ := (demux_mem bf.1 sp kc0).1 hk0
  exact ⟨bf, hbf, kc0.2, h1, h2, rfl⟩

/-- hence the invariant survives a multiband amplifier -/
theorem multiband_inv (amps : List ((Int → Bool) × (Int → Elem ℝ))) (sp out : List (Int × Chan ℝ))
    (h : multiband amps sp = some out) (hinv : ∀ kc ∈ sp, Inv kc.2)
    (hok : ∀ bf ∈ amps, ∀ kc ∈ sp, RunOk (bf.2 kc.1).ops kc.2) : ∀ kc ∈ out, Inv kc.2 := by
  intro kc hkc
  obtain ⟨bf, hbf, c, hc, _, heq⟩ := multiband_mem amps sp out h kc hkc
  rw [heq]
  exact run_inv _ c (hinv _ hc) (hok bf hbf _ hc)

/-! ### non-vacuity -/

/-- a channel right after the transmitter: 1 mW, all signal -/
example : Inv ({ p := 1/1000, s := 1, a := 0, n := 0 } : Chan ℝ) := by
  refine ⟨by norm_num, by norm_num, by norm_num, by norm_num, by norm_num⟩

/-- a guarded run through a fibre-and-amplifier-like op list exists (hypotheses of `run_inv` are satisfiable) -/
example : RunOk [Op.addNli (1/1000000), Op.attDb 1, Op.attLin (1/100), Op.addAse (1/1000000), Op.gainDb 20]
    ({ p := 1/1000, s := 1, a := 0, n := 0 } : Chan ℝ) := by
  refine ⟨⟨?_, ?_⟩, trivial, ?_, ?_, trivial, trivial⟩
  · norm_num
  · show (1:ℝ)/1000000 < 1/1000; norm_num
  · show (0:ℝ) < 1/100; norm_num
  · show (0:ℝ) ≤ 1/1000000; norm_num

/-- a channel with all three shares positive (hypotheses of `gsnr_harmonic`) -/
example : Live ({ p := 1/1000, s := 98/100, a := 1/100, n := 1/100 } : Chan ℝ) := by
  refine ⟨⟨by norm_num, by norm_num, by norm_num, by norm_num, by norm_num⟩, by norm_num⟩

end Gnpy.Spectrum
