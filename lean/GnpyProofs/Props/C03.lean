import GnpyModel
import GnpyProofs.Lemmas.Gn
/- Property theorems for C03 — fibre NLI equals the GN-model closed form and obeys its scaling laws.
   Model: GnpyModel/Gn.lean (`nli` = `NliSolver.compute_nli`, transliterated with the code's broadcasting;
   the model IS the published closed form, the correspondence check ties the code to it).
   All statements over ℝ with π = Real.pi.  `WF c`: loss coefficient > 0, baud rate > 0, power ≥ 0. -/
namespace Gnpy.Gn

/-! ### the kernel: weights, `_psi`, `effective_length` -/

theorem weights : (spmW : ℝ) = 16 / 27 ∧ (xpmW : ℝ) = 32 / 27 := ⟨spmW_eq, xpmW_eq⟩

theorem xpm_twice_spm : (xpmW : ℝ) = 2 * spmW := by
  simp only [spmW, xpmW, Nat.cast_ofNat]

theorem wgtF_self (c : LCh ℝ) : wgtF c c = spmW := by simp [wgtF]
theorem wgtF_other (ci cj : LCh ℝ) (h : ci.f ≠ cj.f) : wgtF ci cj = xpmW := by
  simp [wgtF, lt_or_gt_of_ne h]

/-- **SPM term**: on the diagonal the kernel reduces to
`asinh(π²/2 · |β₂| · L_a · B²) / (2π |β₂| L_a) · L_eff²` (eq. 120 of arXiv:1209.0394 for one channel) -/
theorem spm_formula (len : ℝ) (c : LCh ℝ) :
    psi len c c = Real.arsinh (Real.pi ^ 2 / 2 * |c.beta2| * (1 / c.alpha) * c.b ^ 2)
      / (2 * Real.pi * |c.beta2| * (1 / c.alpha)) * effLength c.alpha len ^ 2 := by
  have h : Real.pi * Real.pi * (1 / c.alpha) * |c.beta2| * c.b * (c.b / 2)
      = Real.pi ^ 2 / 2 * |c.beta2| * (1 / c.alpha) * c.b ^ 2 := by ring
  simp only [psi, transc_abs, transc_asinh, haspi_real, Nat.cast_ofNat, Nat.cast_one]
  rw [add_self_div_two, sub_self, zero_sub, zero_add, mul_neg, Real.arsinh_neg, h]
  ring

/-- the effective length is positive, below the asymptotic length `1/α` and below the physical length -/
theorem effLength_pos (alpha len : ℝ) (ha : 0 < alpha) (hl : 0 < len) :
    0 < effLength alpha len ∧ effLength alpha len < 1 / alpha ∧ effLength alpha len ≤ len := by
  simp only [effLength, transc_exp, Nat.cast_one]
  have hp : 0 < Real.exp (-alpha * len) := Real.exp_pos _
  have he : Real.exp (-alpha * len) < 1 := by
    rw [neg_mul, Real.exp_lt_one_iff, neg_lt_zero]; exact mul_pos ha hl
  refine ⟨div_pos (sub_pos.2 he) ha, div_lt_div_of_pos_right (sub_lt_self _ hp) ha, ?_⟩
  rw [div_le_iff₀ ha]
  have := Real.add_one_le_exp (-alpha * len)
  linarith

theorem term_nonneg (w len : ℝ) (ci cj : LCh ℝ) (hw : 0 ≤ w) (hi : WF ci) (hj : WF cj) :
    0 ≤ term w len ci cj :=
  mul_nonneg (mul_nonneg hi.p_nonneg (mul_self_nonneg _)) (eta_nonneg w len ci cj hw hi hj)

/-! ### `compute_nli`: index form (the code) = frequency form -/

/-- on a comb with pairwise distinct frequencies "same index" is "same frequency" -/
theorem wIdx_eq_wgtF {cs : List (LCh ℝ)} (hd : cs.Pairwise (fun a b => a.f ≠ b.f)) {q r : LCh ℝ × Nat}
    (hq : q ∈ cs.zipIdx) (hr : r ∈ cs.zipIdx) : wIdx q.2 r.2 = wgtF q.1 r.1 := by
  obtain ⟨ci, i⟩ := q
  obtain ⟨cj, j⟩ := r
  obtain ⟨hi, rfl⟩ := List.getElem?_eq_some_iff.1 (List.mk_mem_zipIdx_iff_getElem?.1 hq)
  obtain ⟨hj, rfl⟩ := List.getElem?_eq_some_iff.1 (List.mk_mem_zipIdx_iff_getElem?.1 hr)
  rw [List.pairwise_iff_getElem] at hd
  rcases Nat.lt_trichotomy i j with h | rfl | h
  · rw [wIdx, if_neg h.ne, wgtF_other _ _ (hd _ _ hi hj h)]
  · rw [wIdx, if_pos rfl, wgtF_self]
  · rw [wIdx, if_neg h.ne', wgtF_other _ _ (hd _ _ hj hi h).symm]

/-- on a comb with pairwise distinct centre frequencies the code's weight matrix `spm·I + xpm·(1−I)` is
"SPM on the channel itself, XPM on every other channel": `compute_nli` is channel by channel `nliOf` -/
theorem nli_eq_nliSpec (len : ℝ) (cs : List (LCh ℝ)) (hd : cs.Pairwise (fun a b => a.f ≠ b.f)) :
    nli len cs = nliSpec len cs := by
  rw [nli_eq, nliSpec, map_eq_map_zipIdx (nliOf len cs)]
  refine List.map_congr_left fun q hq => ?_
  rw [nliOf, sumL_eq_sum, map_eq_map_zipIdx (fun cj => term (wgtF q.1 cj) len q.1 cj)]
  exact congrArg _ (List.map_congr_left fun r hr => by rw [wIdx_eq_wgtF hd hq hr])

/-- a comb accepted by `SpectralInformation.__init__` (no overlap, baud ≤ slot, with positive baud rates) has
strictly increasing, hence pairwise distinct, centre frequencies -/
theorem nonoverlap_distinct (l : List (ℝ × ℝ × ℝ)) (h : combAccepted l = true) (hb : ∀ c ∈ l, 0 < c.2.1) :
    l.Pairwise (fun a b => a.1 < b.1) := by
  simp only [combAccepted, combExceed, Bool.and_eq_true, Bool.not_eq_true', List.any_eq_false, decide_eq_true_eq,
    not_lt] at h
  obtain ⟨hov, hex⟩ := h
  have hs : ∀ c ∈ l, 0 < c.2.2 := fun c hc => (hb c hc).trans_le (hex c hc)
  clear hex hb -- only `hov`, `hs` are to go through the induction
  induction l with
  | nil => exact .nil
  | cons c0 rest ih =>
    cases rest with
    | nil => exact List.pairwise_singleton _ _
    | cons c1 rest =>
      simp only [combOverlap, Bool.or_eq_false_iff, decide_eq_false_iff_not, not_lt, Nat.cast_ofNat] at hov
      have ih' := ih hov.2 fun c hc => hs c (List.mem_cons_of_mem _ hc)
      have h01 : c0.1 < c1.1 := by linarith [hov.1, hs c0 (by simp), hs c1 (by simp)]
      exact .cons (List.forall_mem_cons.2 ⟨h01, fun c hc => h01.trans (List.rel_of_pairwise_cons ih' hc)⟩) ih'

/-- loading the fibre coefficients keeps the frequencies -/
theorem loadAll_f (fib : Fibre ℝ) : ∀ (chans : List (ℝ × ℝ × ℝ)) (cs : List (LCh ℝ)),
    loadAll fib chans = some cs → cs.map (·.f) = chans.map (·.1)
  | [], _, h => by cases h; rfl
  | (f, b, p) :: rest, _, h => by
    rw [loadAll] at h
    split at h
    · next c cs hc hcs => cases h; exact congrArg₂ (· :: ·) (load_f hc) (loadAll_f fib rest cs hcs)
    · cases h

/-- **the code's `compute_nli` on an accepted comb is the frequency-form closed form.**  The comb is given twice:
`chans` as `compute_nli` reads it, `(f, baud, power)`, and `slots` as `SpectralInformation.__init__` checked it,
`(f, baud, slot width)`.  `hsl` says that the two lists carry the same frequencies in the same order; `hacc` and `hb`
(positive baud rates) are about `slots`. -/
theorem computeNli_eq_spec (fib : Fibre ℝ) (chans : List (ℝ × ℝ × ℝ)) (slots : List (ℝ × ℝ × ℝ))
    (hsl : slots.map (·.1) = chans.map (·.1)) (hacc : combAccepted slots = true) (hb : ∀ c ∈ slots, 0 < c.2.1)
    (cs : List (LCh ℝ)) (hl : loadAll fib chans = some cs) :
    computeNli fib chans = some (nliSpec fib.len cs) := by
  simp only [computeNli, hl, Option.map_some]
  congr 1
  apply nli_eq_nliSpec
  have h2 : (slots.map (·.1)).Pairwise (· < ·) := List.pairwise_map.2 (nonoverlap_distinct slots hacc hb)
  rw [hsl, ← loadAll_f fib chans cs hl, List.pairwise_map] at h2
  exact h2.imp ne_of_lt

/-! ### sign, scaling, monotonicity, order of the channels -/

theorem nli_length (len : ℝ) (cs : List (LCh ℝ)) : (nli len cs).length = cs.length := by
  rw [nli_eq, List.length_map, List.length_zipIdx]

/-- **NLI is non-negative on every channel** -/
theorem nli_nonneg (len : ℝ) (cs : List (LCh ℝ)) (h : ∀ c ∈ cs, WF c) : ∀ x ∈ nli len cs, 0 ≤ x := by
  rw [nli_eq, List.forall_mem_map]
  refine fun q hq => List.sum_nonneg (List.forall_mem_map.2 fun r hr => ?_)
  exact term_nonneg _ len _ _ (wIdx_nonneg _ _) (h _ (List.fst_mem_of_mem_zipIdx hq))
    (h _ (List.fst_mem_of_mem_zipIdx hr))

theorem nliSpec_nonneg (len : ℝ) (cs : List (LCh ℝ)) (h : ∀ c ∈ cs, WF c) : ∀ x ∈ nliSpec len cs, 0 ≤ x := by
  rw [nliSpec, List.forall_mem_map]
  intro ci hci
  rw [nliOf, sumL_eq_sum]
  exact List.sum_nonneg (List.forall_mem_map.2 fun cj hcj =>
    term_nonneg _ len ci cj (wgtF_nonneg ci cj) (h ci hci) (h cj hcj))

/-- **NLI scales with the cube of a common power factor** -/
theorem nli_cubic (len k : ℝ) (cs : List (LCh ℝ)) :
    nli len (cs.map (scale k)) = (nli len cs).map (fun x => k ^ 3 * x) := by
  simp only [nli_eq, List.zipIdx_map, List.map_map, Function.comp_def, Prod.map, id, term_scale,
    List.sum_map_mul_left]

theorem nliSpec_cubic (len k : ℝ) (cs : List (LCh ℝ)) :
    nliSpec len (cs.map (scale k)) = (nliSpec len cs).map (fun x => k ^ 3 * x) := by
  have hw : ∀ ci cj : LCh ℝ, wgtF (scale k ci) (scale k cj) = wgtF ci cj := fun _ _ => rfl
  simp only [nliSpec, nliOf, sumL_eq_sum, List.map_map, Function.comp_def, hw, term_scale, List.sum_map_mul_left]

/-- **raising the power of any channels never lowers the NLI of any channel** -/
theorem nli_mono_power (len : ℝ) (cs cs' : List (LCh ℝ)) (h : List.Forall₂ Raised cs cs')
    (hw : ∀ c ∈ cs, WF c) : List.Forall₂ (· ≤ ·) (nli len cs) (nli len cs') := by
  -- used twice: for the cuts `q`, `q'` (outer lists) and for the pumps `r`, `r'` (inner lists)
  have hz : List.Forall₂ (fun q q' => (WF q.1 ∧ Raised q.1 q'.1) ∧ q.2 = q'.2) cs.zipIdx cs'.zipIdx :=
    forall₂_zipIdx ((List.forall₂_and_left _ _).2 ⟨hw, h⟩) 0
  rw [nli_eq, nli_eq, List.forall₂_map_left_iff, List.forall₂_map_right_iff]
  refine hz.imp fun q q' ⟨⟨wq, hq⟩, e⟩ => List.Forall₂.sum_le_sum ?_
  rw [List.forall₂_map_left_iff, List.forall₂_map_right_iff]
  refine hz.imp fun r r' ⟨⟨wr, hr⟩, e'⟩ => ?_
  rw [e, e']
  exact term_mono (wIdx_nonneg _ _) hq hr wq wr

/-- the NLI on `ci` from the comb `c :: cs` is the NLI from `cs` plus the term generated by `c` -/
theorem nli_add_channel_exact (len : ℝ) (c : LCh ℝ) (cs : List (LCh ℝ)) (ci : LCh ℝ) :
    nliOf len (c :: cs) ci = term (wgtF ci c) len ci c + nliOf len cs ci := rfl

/-- the NLI on a channel is a symmetric function of the comb -/
theorem nliOf_perm (len : ℝ) (cs cs' : List (LCh ℝ)) (h : cs.Perm cs') (ci : LCh ℝ) :
    nliOf len cs ci = nliOf len cs' ci :=
  sumL_map_perm h _

/-- on a comb with pairwise distinct frequencies `compute_nli` pairs every channel with its `nliOf` -/
theorem zip_nli {len : ℝ} {cs : List (LCh ℝ)} (hd : cs.Pairwise (fun a b => a.f ≠ b.f)) :
    cs.zip (nli len cs) = cs.map fun c => (c, nliOf len cs c) := by
  rw [nli_eq_nliSpec len cs hd, nliSpec, List.map_prod_left_eq_zip]

theorem mem_zip_nli {len : ℝ} {cs : List (LCh ℝ)} (hd : cs.Pairwise (fun a b => a.f ≠ b.f)) {ci : LCh ℝ} {x : ℝ}
    (h : (ci, x) ∈ cs.zip (nli len cs)) : ci ∈ cs ∧ x = nliOf len cs ci := by
  rw [zip_nli hd] at h
  obtain ⟨a, ha, e⟩ := List.mem_map.1 h
  obtain ⟨rfl, rfl⟩ := Prod.mk.inj e
  exact ⟨ha, rfl⟩

/-- **adding a channel (anywhere in the comb) never lowers the NLI of the channels already there**:
`cs'` is `cs` with the channel `c` inserted at any position; `x`, `y` are the values `compute_nli` returns for the
same channel `ci` before and after. -/
theorem nli_mono_add_channel (len : ℝ) (c : LCh ℝ) (cs cs' : List (LCh ℝ)) (hp : cs'.Perm (c :: cs))
    (hd : cs'.Pairwise (fun a b => a.f ≠ b.f)) (hw : ∀ x ∈ cs', WF x) (ci : LCh ℝ) (x y : ℝ)
    (hx : (ci, x) ∈ cs.zip (nli len cs)) (hy : (ci, y) ∈ cs'.zip (nli len cs')) : x ≤ y := by
  obtain ⟨-, rfl⟩ := mem_zip_nli (hd.perm hp Ne.symm).of_cons hx
  obtain ⟨hci, rfl⟩ := mem_zip_nli hd hy
  rw [nliOf_perm len cs' (c :: cs) hp, nli_add_channel_exact]
  exact le_add_of_nonneg_left
    (term_nonneg _ len ci c (wgtF_nonneg ci c) (hw ci hci) (hw c (hp.mem_iff.2 List.mem_cons_self)))

/-- **the result does not depend on the order in which the channels are supplied**: permuting the comb permutes
the (channel, NLI) pairs accordingly -/
theorem nli_perm (len : ℝ) (cs cs' : List (LCh ℝ)) (hp : cs.Perm cs')
    (hd : cs.Pairwise (fun a b => a.f ≠ b.f)) :
    (cs.zip (nli len cs)).Perm (cs'.zip (nli len cs')) := by
  have e : (fun c => (c, nliOf len cs c)) = fun c => (c, nliOf len cs' c) :=
    funext fun c => by rw [nliOf_perm len cs cs' hp c]
  rw [zip_nli hd, zip_nli (hd.perm hp Ne.symm), e]
  exact hp.map _

/-- the constructor's sort makes the supplied order irrelevant: two supplies of the same channels (pairwise distinct
frequencies) are sorted into the same list -/
theorem sortByF_eq_of_perm (l l' : List (ℝ × ℝ × ℝ)) (hp : l.Perm l')
    (hd : l.Pairwise (fun a b => a.1 ≠ b.1)) : sortByF l = sortByF l' := by
  apply List.Perm.eq_of_pairwise (le := fun a b => a.1 < b.1)
  · intro a b _ _ h1 h2; exact absurd h1 (lt_asymm h2)
  · exact sortByF_sorted l hd
  · exact sortByF_sorted l' (hd.perm hp Ne.symm)
  · exact (sortByF_perm l).trans (hp.trans (sortByF_perm l').symm)

/-- **constructor + `compute_nli` does not depend on the order in which the channels were supplied** -/
theorem input_order_irrelevant (fib : Fibre ℝ) (l l' : List (ℝ × ℝ × ℝ)) (hp : l.Perm l')
    (hd : l.Pairwise (fun a b => a.1 ≠ b.1)) : computeNliAny fib l = computeNliAny fib l' := by
  simp only [computeNliAny, sortByF_eq_of_perm l l' hp hd]

/-- a comb supplied in ascending frequency is left as it is -/
theorem sortByF_sorted_id : ∀ (l : List (ℝ × ℝ × ℝ)), l.Pairwise (fun a b => a.1 < b.1) → sortByF l = l :=
  fun l h => (sortByF_eq l).trans h.insertionSort_eq

/-! ### fibre coefficients (`Fiber.beta2`, `gamma_scaling`) -/

/-- `β₂ = −λ² D / (2π c)` with `λ = c / f`; a positive dispersion parameter gives a negative β₂ -/
theorem beta2_formula (f d : ℝ) (hf : 0 < f) :
    beta2OfDisp f d = -((cLight / f) ^ 2 * d) / (2 * Real.pi * cLight) ∧ (0 < d → beta2OfDisp f d < 0) := by
  have hc : (0:ℝ) < cLight := cLight_pos -- read by the two `positivity` calls
  simp only [beta2OfDisp, haspi_real, Nat.cast_ofNat]
  exact ⟨by ring, fun hd => div_neg_of_neg_of_pos (neg_neg_of_pos (by positivity)) (by positivity)⟩

/-- at the reference frequency the scaled nonlinear coefficient is `2π n₂ f_ref / (c · A_eff)`,
i.e. `2π n₂ / (λ_ref A_eff)`: the scaling law passes through the configured value -/
theorem gamma_at_ref (fib : Fibre ℝ) (hA : 0 < fib.effArea) (hf : 0 < fib.refF) :
    gammaAt fib fib.refF = 2 * Real.pi * n2 * fib.refF / (cLight * fib.effArea) := by
  simp only [gammaAt, effAreaScaling_ref fib hA hf, haspi_real, Nat.cast_ofNat]

/-! ### non-vacuity -/

/-- a typical channel: α = 4.6e-5 1/m (0.2 dB/km), 32 GBd, 1 mW -/
noncomputable def exCh (f : ℝ) : LCh ℝ :=
  { f := f, b := 32000000000, p := 1 / 1000, alpha := 46 / 1000000, beta2 := -(2 / 10 ^ 26), gamma := 13 / 10000 }

example : WF (exCh 193000000000000) := ⟨by norm_num [exCh], by norm_num [exCh], by norm_num [exCh]⟩
example : [exCh 193000000000000, exCh 193050000000000].Pairwise (fun a b => a.f ≠ b.f) := by
  simp [exCh]
example : Raised (exCh 1) { exCh 1 with p := 2 / 1000 } := ⟨rfl, rfl, rfl, rfl, rfl, by norm_num [exCh]⟩
example : combAccepted [((193000000000000:ℝ), (32000000000:ℝ), (50000000000:ℝ)),
    (193050000000000, 32000000000, 50000000000)] = true := by
  norm_num [combAccepted, combOverlap, combExceed]

end Gnpy.Gn
