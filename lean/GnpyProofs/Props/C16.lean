import GnpyModel
import GnpyProofs.RealInst
/- Property theorems for C16 — each request's result is independent of the other requests in the batch.
   Model: GnpyModel/Plan.lean.
   What a theorem cannot show: whether the Python objects are REALLY copied (aliasing through deepcopy, shared
   library dicts, class attributes).  With the amplifier as repaired the results are the same with and without the
   per-request copy (`planShared_results_eq_planCopy`); with the amplifier as it was before (counter-model
   `callLeaky`) they rested on it (`edfa_state_leaks`, `shared_differs`).  The copy itself is covered by the
   correspondence check and the monitor only (level: partial for run-time aliasing). -/
namespace Gnpy.Plan

variable {Settings Request Result Slots SlotOut : Type}

/-! ### the pipeline -/

/-- **in any batch, the result of request `i` is what `computeOne` gives for that request with the given settings** —
i.e. exactly the result of the batch that contains this request alone, whatever comes before or after it (dense-comb,
saturating, blocked, failing requests included) and whatever the slot state.  The first conjunct is the definition of
`plan`. -/
theorem plan_results_pointwise (P : Pipeline Settings Request Result Slots SlotOut) (st : Settings) (s0 s0' : Slots)
    (reqs : List Request) :
    (plan P st s0 reqs).results = reqs.map (P.computeOne st) ∧
    ∀ i (hi : i < reqs.length), (plan P st s0 reqs).results[i]? = (plan P st s0' [reqs[i]]).results[0]? := by
  refine ⟨rfl, ?_⟩
  intro i hi
  simp [plan, hi]

/-- first, last, or in between: prepending and appending other requests does not change a request's result -/
theorem plan_result_context (P : Pipeline Settings Request Result Slots SlotOut) (st : Settings) (s0 : Slots)
    (before after : List Request) (r : Request) :
    (plan P st s0 (before ++ r :: after)).results[before.length]? = some (P.computeOne st r) := by
  simp [plan]

/-- **permuting the batch permutes the results in the same way** (only the slot outcomes may change) -/
theorem plan_perm (P : Pipeline Settings Request Result Slots SlotOut) (st : Settings) (s0 : Slots)
    (reqs reqs' : List Request) (h : reqs.Perm reqs') :
    ((plan P st s0 reqs).results).Perm ((plan P st s0 reqs').results) ∧
    (reqs.zip (plan P st s0 reqs).results).Perm (reqs'.zip (plan P st s0 reqs').results) := by
  refine ⟨h.map _, ?_⟩
  rw [plan, plan, ← List.map_prod_left_eq_zip, ← List.map_prod_left_eq_zip]
  exact h.map _

/-- computing a batch leaves the settings unchanged (by definition: the model of `planning` hands back the settings it
was given; that the code writes none is what the monitor checks) -/
theorem plan_leaves_settings (P : Pipeline Settings Request Result Slots SlotOut) (st : Settings) (s0 : Slots)
    (reqs : List Request) : (plan P st s0 reqs).settings = st := rfl

/-! ### the amplifier (as repaired): every call clamps from the SET gain -/

/-- one call: the gain is `min(set gain, p_max − pin)` whatever the amplifier did before; set gain and p_max are kept -/
theorem call_spec (e : Edfa ℝ) (pin : ℝ) :
    (e.call pin).1.effGain = min e.setGain (e.pMax - pin) ∧ (e.call pin).2 = pin + min e.setGain (e.pMax - pin) ∧
    (e.call pin).1.setGain = e.setGain ∧ (e.call pin).1.pMax = e.pMax :=
  ⟨(min_def _ _).symm, congrArg (pin + ·) (min_def _ _).symm, rfl, rfl⟩

/-- "set gain, reduced only as far as needed": never above the set gain, never above what p_max allows, and equal to the set
gain whenever that fits -/
theorem call_reduced_only_as_needed (e : Edfa ℝ) (pin : ℝ) :
    (e.call pin).1.effGain ≤ e.setGain ∧ pin + (e.call pin).1.effGain ≤ e.pMax ∧
    (pin + e.setGain ≤ e.pMax → (e.call pin).1.effGain = e.setGain) := by
  rw [(call_spec e pin).1]
  exact ⟨min_le_left _ _, le_sub_iff_add_le'.1 (min_le_right _ _), fun h => min_eq_left (le_sub_iff_add_le'.2 h)⟩

/-- **any sequence of calls on ONE shared amplifier object gives, for every call, the output
`pin_i + min(set gain, p_max − pin_i)`** — irrespective of the earlier calls (a cold spectrum after a hot one gets the
full set gain again) — and leaves the set gain and p_max as they were -/
theorem call_history_free (e : Edfa ℝ) (pins : List ℝ) :
    (callSeq e pins).2 = pins.map (fun p => p + min e.setGain (e.pMax - p)) ∧
    (callSeq e pins).1.setGain = e.setGain ∧ (callSeq e pins).1.pMax = e.pMax := by
  induction pins generalizing e with
  | nil => exact ⟨rfl, rfl, rfl⟩
  | cons p ps ih =>
    -- a call keeps `setGain` and `pMax` by definition, so `ih` for the amplifier after the call speaks of `e`'s
    obtain ⟨i1, i2, i3⟩ := ih (e.call p).1
    exact ⟨congrArg₂ (· :: ·) (call_spec e p).2.1 i1, i2, i3⟩

/-- the set gain is invariant under any call sequence (the quantity `network_to_json` must keep exporting) -/
theorem setGain_invariant (e : Edfa ℝ) (pins : List ℝ) : (callSeq e pins).1.setGain = e.setGain :=
  (call_history_free e pins).2.1

/-! ### lines and batches: a propagation reads the settings alone, so the results do not rest on the copy -/

/-- propagation on a copy returns the network as it was (by definition of `propagateOnCopy`) -/
theorem copy_leaves_settings (net : List (ℝ × Edfa ℝ)) (p : ℝ) : (propagateOnCopy net p).1 = net := rfl

/-- the output power of a propagation is a fold over the SETTINGS of the line alone (`settingsOf`: loss, set gain and
p_max of every span), and the propagation leaves them as they are -/
theorem propagate_eq (net : List (ℝ × Edfa ℝ)) (p : ℝ) :
    (propagate net p).2 =
      (settingsOf net).foldl (fun p (loss, setGain, pMax) => p - loss + min setGain (pMax - (p - loss))) p ∧
    settingsOf (propagate net p).1 = settingsOf net := by
  induction net generalizing p with
  | nil => exact ⟨rfl, rfl⟩
  | cons x xs ih =>
    obtain ⟨i1, i2⟩ := ih (x.2.call (p - x.1)).2
    exact ⟨i1.trans (by rw [(call_spec _ _).2.1]; rfl), congrArg (_ :: ·) i2⟩

/-- a propagation reads only the SETTINGS of the line (losses, set gains, p_max) and leaves them unchanged -/
theorem propagate_settings (net net' : List (ℝ × Edfa ℝ)) (p : ℝ) (h : settingsOf net = settingsOf net') :
    (propagate net p).2 = (propagate net' p).2 ∧ settingsOf (propagate net p).1 = settingsOf net :=
  ⟨by rw [(propagate_eq net p).1, (propagate_eq net' p).1, h], (propagate_eq net p).2⟩

/-- with the copy every request is propagated over the network as given, which is handed back -/
theorem planCopy_spec (net : List (ℝ × Edfa ℝ)) (ps : List ℝ) :
    (planCopy net ps).1 = net ∧ (planCopy net ps).2 = ps.map (fun p => (propagate net p).2) := by
  induction ps with
  | nil => exact ⟨rfl, rfl⟩
  | cons p rest ih => exact ⟨ih.1, congrArg (_ :: ·) ih.2⟩

/-- with the copy, the batch is an instance of the pipeline: pointwise results, settings unchanged -/
theorem planCopy_pointwise (net : List (ℝ × Edfa ℝ)) (before after : List ℝ) (p : ℝ) :
    (planCopy net (before ++ p :: after)).2[before.length]? = some (planCopy net [p]).2[0]! ∧
    (planCopy net (before ++ p :: after)).1 = net := by
  rw [(planCopy_spec net _).2, (planCopy_spec net _).1, (planCopy_spec net [p]).2]
  simp

/-- **with the repaired amplifier the results do not rest on the copy**: sharing the amplifier objects across the batch
gives every request the result it has alone, and the settings of the network (set gains, p_max, losses) are unchanged.
What is still shared is only the gain of the LAST call (`effGain`), which no computation reads. -/
theorem planShared_results_eq_planCopy (net : List (ℝ × Edfa ℝ)) (ps : List ℝ) :
    (planShared net ps).2 = (planCopy net ps).2 ∧ settingsOf (planShared net ps).1 = settingsOf net := by
  rw [(planCopy_spec net ps).2]
  -- the amplifier objects change from request to request, their settings do not
  suffices h : ∀ net' : List (ℝ × Edfa ℝ), settingsOf net' = settingsOf net →
      (planShared net' ps).2 = ps.map (fun p => (propagate net p).2) ∧
      settingsOf (planShared net' ps).1 = settingsOf net from h net rfl
  induction ps with
  | nil => exact fun net' h => ⟨rfl, h⟩
  | cons p rest ih =>
    intro net' h
    obtain ⟨a1, a2⟩ := propagate_settings net' net p h
    obtain ⟨i1, i2⟩ := ih (propagate net' p).1 (a2.trans h)
    exact ⟨congrArg₂ (· :: ·) a1 i1, i2⟩

/-! ### the counter-model (`callLeaky`, the behaviour before the repair): why the per-request copy was needed -/

theorem callLeaky_effGain (e : Edfa ℝ) (pin : ℝ) : (e.callLeaky pin).1.effGain = min e.effGain (e.pMax - pin) :=
  (min_def _ _).symm

/-- the leaky clamp never raises the stored gain: once clamped, the amplifier stayed clamped for whoever came next -/
theorem leaky_effGain_antitone (e : Edfa ℝ) (pin : ℝ) :
    (e.callLeaky pin).1.effGain ≤ e.effGain ∧ (e.callLeaky pin).1.pMax = e.pMax :=
  ⟨callLeaky_effGain e pin ▸ min_le_left _ _, rfl⟩

/-- a saturating leaky call lowers the stored gain strictly -/
theorem leaky_call_saturated (e : Edfa ℝ) (pin : ℝ) (h : e.pMax < pin + e.effGain) :
    (e.callLeaky pin).1.effGain < e.effGain :=
  callLeaky_effGain e pin ▸ min_lt_of_right_lt (sub_lt_iff_lt_add'.2 h)

/-- about the LEAKY variant: one amplifier (gain 20 dB, p_max 21 dBm) after 10 dB of loss: a saturating
request (+15 dBm) followed by a light one (0 dBm).  Sharing the leaky amplifier object, the light request leaves at +6 dBm;
with the copy it leaves at +10 dBm.  The repaired amplifier gives +10 dBm in both cases. -/
theorem edfa_state_leaks :
    (planSharedLeaky [((10:Int), ({ setGain := 20, effGain := 20, pMax := 21 } : Edfa Int))] [15, 0]).2 = [21, 6] ∧
    (planCopyLeaky [((10:Int), ({ setGain := 20, effGain := 20, pMax := 21 } : Edfa Int))] [15, 0]).2 = [21, 10] ∧
    ((planSharedLeaky [((10:Int), ({ setGain := 20, effGain := 20, pMax := 21 } : Edfa Int))] [15, 0]).1.map (·.2.effGain)) = [16] ∧
    (planShared [((10:Int), ({ setGain := 20, effGain := 20, pMax := 21 } : Edfa Int))] [15, 0]).2 = [21, 10] ∧
    ((planShared [((10:Int), ({ setGain := 20, effGain := 20, pMax := 21 } : Edfa Int))] [15, 0]).1.map (·.2.setGain)) = [20] := by
  decide

/-- `edfa_state_leaks` over ℝ, for ANY single leaky amplifier that the first request saturates and the second does not:
the second request's output differs from its output alone -/
theorem shared_differs (loss g pmax p1 p2 : ℝ) (hsat : pmax < p1 - loss + g) (hun : p2 - loss + g ≤ pmax)
    (hp : p2 < p1) :
    (planSharedLeaky [(loss, ({ setGain := g, effGain := g, pMax := pmax } : Edfa ℝ))] [p1, p2]).2 ≠
      (planCopyLeaky [(loss, ({ setGain := g, effGain := g, pMax := pmax } : Edfa ℝ))] [p1, p2]).2 := by
  have h1 : ¬ g ≤ pmax - (p1 - loss) := by linarith
  have h2 : g ≤ pmax - (p2 - loss) := by linarith
  have h3 : pmax - (p1 - loss) ≤ pmax - (p2 - loss) := by linarith
  intro hc
  -- compare the outputs of the second request
  have := (List.cons.inj (List.cons.inj hc).2).1
  simp only [propagateWith, Edfa.callLeaky, if_neg h1, if_pos h2, if_pos h3] at this
  linarith

/-! ### process-wide simulation parameters (`SimParams._shared_dict`) -/

variable {Net : Type}

/-- the model of `planning` has no way to write the process-wide simulation parameters: whatever the batch, they are
after it what they were before, and every request is computed with those same parameters (all three by definition;
that the code writes none is what the SimParams monitor checks) -/
theorem plan_leaves_simparams (P : Pipeline (World Net) Request Result Slots SlotOut) (w : World Net) (s0 : Slots)
    (reqs : List Request) :
    (plan P w s0 reqs).settings.sim = w.sim ∧ (plan P w s0 reqs).settings.network = w.network ∧
    (plan P w s0 reqs).results = reqs.map (P.computeOne ⟨w.network, w.sim⟩) := ⟨rfl, rfl, rfl⟩

/-- `cutIndices` is a function of the parameters and the number of carriers, so a comb of `n` carriers gets the same
indices whatever combs were evaluated before it.  The statement holds for any function in place of `cutIndices`: its
content is that the selection is MODELLED as one, without a parameter state threaded through (the defect that threads
one is `selectAllClamping`). -/
theorem cutIndices_order_free (p : NliParams) (before : List Nat) (n : Nat) :
    (before.map (cutIndices p) ++ [cutIndices p n]).getLast? = some (cutIndices p n) := by simp

theorem roundDiv_mul_left {d : Nat} (n : Nat) (hd : 0 < d) : roundDiv (d * n) d = n := by
  simp [roundDiv, Nat.mul_div_cancel_left _ hd, hd]

/-- with `computed_number_of_channels = c ≥ 2` (and no explicit channel list) a comb of `n` carriers gets `c` indices,
the first 0 and the last `n − 1`, the last channel (for `n = 0` the subtraction is truncated) -/
theorem cutIndices_ends (p : NliParams) (c n : Nat) (hc : 2 ≤ c) (h1 : p.computedChannels = none)
    (h2 : p.computedNumberOfChannels = some c) (l : List Nat) (h : cutIndices p n = .ok l) :
    l.length = c ∧ l.head? = some 0 ∧ l.getLast? = some (n - 1) := by
  have hd : 0 < c - 1 := by omega
  have hz : roundDiv 0 (c - 1) = 0 := roundDiv_mul_left 0 hd
  simp only [cutIndices, h1, h2, show c ≠ 1 by omega, if_false, Except.ok.injEq] at h
  subst h
  simp [List.head?_range, List.getLast?_range, show c ≠ 0 by omega, hz, roundDiv_mul_left _ hd]

/-- with the write-back defect a sparse comb (2 carriers, 8 computed channels) computed
BEFORE a full comb (12 carriers) leaves `computed_number_of_channels = 2` behind, and the full comb is then evaluated
on channels {0, 11} instead of 8 channels; in the other order both get their correct indices -/
theorem simparams_leak_example :
    let p : NliParams := { method := "ggn_approx", computedChannels := none, computedNumberOfChannels := some 8 }
    (selectAllClamping p [2, 12]).2 = [.ok [0, 1], .ok [0, 11]] ∧
    (selectAllClamping p [2, 12]).1.computedNumberOfChannels = some 2 ∧
    cutIndices p 12 = .ok [0, 2, 3, 5, 6, 8, 9, 11] ∧
    (selectAllClamping p [12, 2]).2 = [.ok [0, 2, 3, 5, 6, 8, 9, 11], .ok [0, 1]] := by
  decide

/-! ### non-vacuity -/
example : (plan (⟨fun (s : Nat) (r : Nat) => s + r, fun (sl : Nat) x => (sl + 1, sl)⟩ : Pipeline Nat Nat Nat Nat Nat)
    5 0 [1, 2, 3]).results = [6, 7, 8] := by decide
example : (plan (⟨fun (s : Nat) (r : Nat) => s + r, fun (sl : Nat) x => (sl + 1, sl)⟩ : Pipeline Nat Nat Nat Nat Nat)
    5 0 [1, 2, 3]).slotOuts = [0, 1, 2] := by decide

end Gnpy.Plan
