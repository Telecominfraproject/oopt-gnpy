import GnpyModel.Scalar
import Mathlib.Analysis.SpecialFunctions.Arsinh
/-
The real-number instantiation of the model's transcendental interface (`Transc` of GnpyModel/Scalar.lean): the object
every numeric theorem talks about (DESIGN.md §2.3).  The algebraic classes are Mathlib's own instances on ℝ.
-/
namespace Gnpy

noncomputable instance : Transc ℝ := ⟨Real.exp, Real.log, Real.sqrt, Real.arsinh, fun x => |x|⟩

@[simp] theorem transc_exp (x : ℝ) : Transc.exp x = Real.exp x := rfl
@[simp] theorem transc_log (x : ℝ) : Transc.log x = Real.log x := rfl
@[simp] theorem transc_sqrt (x : ℝ) : Transc.sqrt x = Real.sqrt x := rfl
@[simp] theorem transc_asinh (x : ℝ) : Transc.asinh x = Real.arsinh x := rfl
@[simp] theorem transc_abs (x : ℝ) : Transc.abs x = |x| := rfl

end Gnpy
